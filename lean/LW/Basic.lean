/-
  LW.Basic — bytes; outcomes (ok / err / panic) and what a successful `do` block says about its steps; little-endian
  `leBytes` / `leNat`; Go's checked `slice` / `index` and when they answer; hex; `xorBytes` (it is `List.zipWith`).
  Core Lean only (the compiled driver imports this).
-/
namespace LW

abbrev Byte := BitVec 8
abbrev Bytes := List Byte

/-- Result of a modelled Go function: a value, a returned `error`, or a run-time panic. -/
inductive Outcome (α : Type) where
  | ok (a : α)
  | err
  | panic
  deriving Repr, DecidableEq, Inhabited

namespace Outcome
@[inline] def bind {α β} (x : Outcome α) (f : α → Outcome β) : Outcome β :=
  match x with
  | ok a => f a
  | err => err
  | panic => panic
instance : Monad Outcome where
  pure := ok
  bind := bind
@[simp] theorem ok_bind {α β} (a : α) (f : α → Outcome β) : (ok a >>= f) = f a := rfl
@[simp] theorem err_bind {α β} (f : α → Outcome β) : ((err : Outcome α) >>= f) = err := rfl
@[simp] theorem panic_bind {α β} (f : α → Outcome β) : ((panic : Outcome α) >>= f) = panic := rfl
@[simp] theorem pure_eq {α} (a : α) : (pure a : Outcome α) = ok a := rfl
def isOk {α} : Outcome α → Bool | ok _ => true | _ => false
def toOption {α} : Outcome α → Option α | ok a => some a | _ => none
def map {α β} (f : α → β) : Outcome α → Outcome β
  | ok a => ok (f a) | err => err | panic => panic
/-- Go's `if cond { return err }`. -/
@[inline] def guardErr (c : Bool) : Outcome Unit := if c then err else ok ()

/-! Inversion: what a successful (or panic-free) composite says about its steps. Used by name
(`simp only [bind_eq_ok, ite_err_eq_ok] at h`) to walk an encoder's guard chain in one step. -/

theorem bind_eq_ok {α β} {x : Outcome α} {f : α → Outcome β} {b : β} :
    (x >>= f) = ok b ↔ ∃ a, x = ok a ∧ f a = ok b := by
  cases x <;> simp

/-- Go's `if c { return err }` in front of a step -/
theorem ite_err_eq_ok {α} {c : Prop} [Decidable c] {x : Outcome α} {a : α} :
    (if c then err else x) = ok a ↔ ¬ c ∧ x = ok a := by
  split <;> simp [*]

theorem ite_eq_ok {α} {c : Prop} [Decidable c] {x y : Outcome α} {a : α} :
    (if c then x else y) = ok a ↔ (c ∧ x = ok a) ∨ (¬ c ∧ y = ok a) := by
  split <;> simp [*]

theorem bind_ne_panic {α β} {x : Outcome α} {f : α → Outcome β} :
    (x >>= f) ≠ panic ↔ x ≠ panic ∧ ∀ a, x = ok a → f a ≠ panic := by
  cases x <;> simp

theorem ite_ne_panic {α} {c : Prop} [Decidable c] {x y : Outcome α} :
    (if c then x else y) ≠ panic ↔ (c → x ≠ panic) ∧ (¬ c → y ≠ panic) := by
  split <;> simp [*]

theorem ite_err_bind {α β} {c : Prop} [Decidable c] {x : Outcome α} {f : α → Outcome β} :
    ((if c then err else x) >>= f) = if c then err else x >>= f := by
  split <;> rfl

/-- a do-block that continues alike after an `if` is elaborated with the continuation inside both branches -/
theorem ite_bind_bind {α β} {c : Prop} [Decidable c] (x y : Outcome α) (f : α → Outcome β) :
    (if c then x >>= f else y >>= f) = (if c then x else y) >>= f := by
  split <;> rfl

theorem isOk_ok {α} (a : α) : (ok a).isOk = true := rfl

theorem isOk_iff {α} {x : Outcome α} : x.isOk = true ↔ ∃ a, x = ok a := by
  cases x <;> simp [isOk]

theorem ite_err_isOk {α} {c : Prop} [Decidable c] {x : Outcome α} :
    (if c then err else x).isOk = true ↔ ¬ c ∧ x.isOk = true := by
  split <;> simp [*, isOk]

theorem toOption_eq_some {α} {x : Outcome α} {a : α} : x.toOption = some a ↔ x = ok a := by
  cases x <;> simp [toOption]

end Outcome

open Outcome

@[inline] def byteOfNat (n : Nat) : Byte := BitVec.ofNat 8 n
@[inline] def bit (b : Byte) (i : Nat) : Bool := b.getLsbD i
@[inline] def boolBit (c : Bool) (i : Nat) : Byte := if c then byteOfNat (2 ^ i) else 0

/-- little-endian bytes of a natural number, `n` bytes (truncating like Go's `PutUintXX` on the low bytes). -/
def leBytes : (n : Nat) → Nat → Bytes
  | 0, _ => []
  | n+1, x => byteOfNat (x % 256) :: leBytes n (x / 256)

/-- natural number denoted by little-endian bytes. -/
def leNat : Bytes → Nat
  | [] => 0
  | b :: bs => b.toNat + 256 * leNat bs

@[simp] theorem leBytes_length (n x : Nat) : (leBytes n x).length = n := by
  induction n generalizing x with
  | zero => rfl
  | succ n ih => simp [leBytes, ih]

theorem leNat_lt (bs : Bytes) : leNat bs < 256 ^ bs.length := by
  induction bs with
  | nil => simp [leNat]
  | cons b bs ih =>
    simp only [leNat, List.length_cons, Nat.pow_succ]
    omega

theorem leNat_leBytes (n x : Nat) : leNat (leBytes n x) = x % 256 ^ n := by
  induction n generalizing x with
  | zero => simp [leBytes, leNat, Nat.mod_one]
  | succ n ih =>
    simp only [leBytes, leNat, ih, byteOfNat, BitVec.toNat_ofNat, Nat.pow_succ]
    have h1 : x % (256 ^ n * 256) = x % 256 + 256 * (x / 256 % 256 ^ n) := by
      rw [Nat.mul_comm (256 ^ n) 256, Nat.mod_mul]
    rw [h1]
    omega

theorem leBytes_leNat (bs : Bytes) : leBytes bs.length (leNat bs) = bs := by
  induction bs with
  | nil => rfl
  | cons b bs ih =>
    simp only [List.length_cons, leBytes, leNat]
    have h1 : (b.toNat + 256 * leNat bs) % 256 = b.toNat := by omega
    have h2 : (b.toNat + 256 * leNat bs) / 256 = leNat bs := by omega
    rw [h1, h2, ih]
    simp [byteOfNat]

theorem leNat_append (a b : Bytes) : leNat (a ++ b) = leNat a + 256 ^ a.length * leNat b := by
  induction a with
  | nil => simp [leNat]
  | cons x xs ih =>
    simp only [List.cons_append, leNat, ih, List.length_cons, Nat.pow_succ]
    rw [Nat.mul_add, ← Nat.mul_assoc, Nat.mul_comm 256 (256 ^ xs.length)]
    omega

theorem leNat_singleton (b : Byte) : leNat [b] = b.toNat := Nat.add_zero _

theorem leNat_leBytes_of_lt {k x : Nat} (h : x < 256 ^ k) : leNat (leBytes k x) = x := by
  rw [leNat_leBytes, Nat.mod_eq_of_lt h]

theorem leBytes_leNat_of_length {k : Nat} {bs : Bytes} (h : bs.length = k) : leBytes k (leNat bs) = bs := by
  rw [← h, leBytes_leNat]

theorem ofNat_leNat_leBytes_toNat {w k : Nat} (x : BitVec w) (hk : x.toNat < 256 ^ k) :
    BitVec.ofNat w (leNat (leBytes k x.toNat)) = x := by
  rw [leNat_leBytes_of_lt hk, BitVec.ofNat_toNat, BitVec.setWidth_eq]

theorem leBytes_toNat_ofNat_leNat {w k : Nat} {bs : Bytes} (h : bs.length = k) (hw : 256 ^ k ≤ 2 ^ w) :
    leBytes k (BitVec.ofNat w (leNat bs)).toNat = bs := by
  have hlt : leNat bs < 2 ^ w := Nat.lt_of_lt_of_le (h ▸ leNat_lt bs) hw
  rw [BitVec.toNat_ofNat, Nat.mod_eq_of_lt hlt, leBytes_leNat_of_length h]

theorem leBytes_mod (n x : Nat) : leBytes n (x % 256 ^ n) = leBytes n x := by
  induction n generalizing x with
  | zero => rfl
  | succ n ih =>
    simp only [leBytes]
    rw [Nat.pow_succ', Nat.mod_mul_right_mod, Nat.mod_mul_right_div_self, ih]

/-- a byte string is the `n` little-endian bytes of `x` as soon as it has `n` bytes and denotes `x mod 256^n`:
turns an equation between byte strings into one between numbers -/
theorem leBytes_eq {bs : Bytes} {n x : Nat} (hl : bs.length = n) (h : leNat bs = x % 256 ^ n) : leBytes n x = bs := by
  rw [← leBytes_mod, ← h, leBytes_leNat_of_length hl]

theorem leBytes_one_toNat (t : Byte) : leBytes 1 t.toNat = [t] :=
  leBytes_eq rfl (by rw [leNat_singleton, Nat.mod_eq_of_lt t.isLt])

theorem leBytes_append (a b x y : Nat) (hx : x < 256 ^ a) :
    leBytes (a + b) (x + 256 ^ a * y) = leBytes a x ++ leBytes b y := by
  induction a generalizing x with
  | zero => simp [show x = 0 by simpa using hx, leBytes]
  | succ a ih =>
    rw [show a + 1 + b = (a + b) + 1 by omega, Nat.pow_succ', Nat.mul_assoc]
    simp only [leBytes, List.cons_append]
    rw [show (x + 256 * (256 ^ a * y)) % 256 = x % 256 by omega,
      show (x + 256 * (256 ^ a * y)) / 256 = x / 256 + 256 ^ a * y by omega, ih (x / 256) (by omega)]

theorem leBytes_eq_map (n x : Nat) : leBytes n x = (List.range n).map fun i => byteOfNat (x / 256 ^ i % 256) := by
  induction n generalizing x with
  | zero => rfl
  | succ n ih =>
    rw [leBytes, ih, List.range_succ_eq_map, List.map_cons, List.map_map]
    simp only [Nat.pow_zero, Nat.div_one, Function.comp_def, Nat.pow_succ', Nat.div_div_eq_div_mul]

/-! ### Go slice primitives (checked: they panic exactly when Go would) -/

/-- `s[lo:hi]` -/
def slice (s : Bytes) (lo hi : Nat) : Outcome Bytes :=
  if lo ≤ hi ∧ hi ≤ s.length then ok ((s.drop lo).take (hi - lo)) else panic

/-- `s[i]` -/
def index (s : Bytes) (i : Nat) : Outcome Byte :=
  match s[i]? with
  | some b => ok b
  | none => panic

theorem slice_ok (s : Bytes) (lo hi : Nat) (h : lo ≤ hi ∧ hi ≤ s.length) : slice s lo hi = ok ((s.drop lo).take (hi - lo)) := by
  unfold slice; rw [if_pos h]

theorem index_ok (s : Bytes) (i : Nat) (h : i < s.length) : index s i = ok (s.getD i 0) := by
  rw [index, List.getD_eq_getElem?_getD, List.getElem?_eq_getElem h]; rfl

/-- an index expression in a `do` block panics exactly outside its bounds, and the block goes on with the byte read: a `≠ panic`
goal about straight-line code becomes its bounds under its guards, which `omega` checks (with `bind_ne_panic` for other steps in
the same block, rewrite with these two first: `simp` may try the general lemma first) -/
theorem index_bind_ne_panic {β} {s : Bytes} {i : Nat} {f : Byte → Outcome β} :
    (index s i >>= f) ≠ panic ↔ i < s.length ∧ f (s.getD i 0) ≠ panic := by
  by_cases h : i < s.length
  · rw [index_ok s i h, ok_bind]; exact (and_iff_right h).symm
  · unfold index; simp [h]

theorem slice_bind_ne_panic {β} {s : Bytes} {lo hi : Nat} {f : Bytes → Outcome β} :
    (slice s lo hi >>= f) ≠ panic ↔ (lo ≤ hi ∧ hi ≤ s.length) ∧ f ((s.drop lo).take (hi - lo)) ≠ panic := by
  by_cases h : lo ≤ hi ∧ hi ≤ s.length
  · rw [slice_ok s lo hi h, ok_bind]; exact (and_iff_right h).symm
  · unfold slice; simp [h]

/-- `s[lo:]` -/
theorem slice_to_end (s : Bytes) (lo : Nat) (h : lo ≤ s.length) : slice s lo s.length = ok (s.drop lo) := by
  rw [slice_ok s lo s.length ⟨h, Nat.le_refl _⟩, List.take_of_length_le (by simp)]

def hexDigit (n : Nat) : Char :=
  if n < 10 then Char.ofNat (48 + n) else Char.ofNat (87 + n)

def hexOfByte (b : Byte) : List Char := [hexDigit (b.toNat / 16), hexDigit (b.toNat % 16)]

def hexOfBytes (bs : Bytes) : String := String.ofList (bs.flatMap hexOfByte)

def hexVal (c : Char) : Option Nat :=
  if '0' ≤ c ∧ c ≤ '9' then some (c.toNat - 48)
  else if 'a' ≤ c ∧ c ≤ 'f' then some (c.toNat - 87)
  else if 'A' ≤ c ∧ c ≤ 'F' then some (c.toNat - 55)
  else none

/-- `encoding/hex.DecodeString`: even length, every character a hex digit (either case). -/
def hexDecodeChars : List Char → Option Bytes
  | [] => some []
  | [_] => none
  | a :: b :: rest =>
    match hexVal a, hexVal b, hexDecodeChars rest with
    | some x, some y, some r => some (byteOfNat (x * 16 + y) :: r)
    | _, _, _ => none

def hexDecode (s : String) : Option Bytes := hexDecodeChars s.toList

theorem hexVal_hexDigit : ∀ k < 16, hexVal (hexDigit k) = some k := by decide

theorem hexDecodeChars_hexOfByte (bs : Bytes) : hexDecodeChars (bs.flatMap hexOfByte) = some bs := by
  induction bs with
  | nil => rfl
  | cons b bs ih =>
    have := b.isLt
    simp only [List.flatMap_cons, hexOfByte, List.cons_append, List.nil_append, hexDecodeChars,
      hexVal_hexDigit (b.toNat / 16) (by omega), hexVal_hexDigit (b.toNat % 16) (by omega), ih]
    congr 2
    apply BitVec.eq_of_toNat_eq
    simp only [byteOfNat, BitVec.toNat_ofNat]
    omega

/-- hex text never starts with `0x` (no hex digit is `x`), so stripping an optional prefix is unambiguous -/
theorem flatMap_hexOfByte_ne_0x (bs : Bytes) : ∀ rest, bs.flatMap hexOfByte ≠ '0' :: 'x' :: rest := by
  intro rest h
  cases bs with
  | nil => simp at h
  | cons b bs =>
    simp only [List.flatMap_cons, hexOfByte, List.cons_append, List.nil_append, List.cons.injEq] at h
    have : ∀ k : Fin 16, hexDigit k.val ≠ 'x' := by decide
    exact this ⟨b.toNat % 16, by omega⟩ h.2.1

theorem hexOfBytes_toList (bs : Bytes) : (hexOfBytes bs).toList = bs.flatMap hexOfByte := by
  simp [hexOfBytes]

/-- XOR of two byte strings, length of the shorter. -/
def xorBytes : Bytes → Bytes → Bytes
  | a :: as, b :: bs => (a ^^^ b) :: xorBytes as bs
  | _, _ => []

@[simp] theorem xorBytes_length (a b : Bytes) : (xorBytes a b).length = min a.length b.length := by
  induction a generalizing b with
  | nil => simp [xorBytes]
  | cons x xs ih => cases b with
    | nil => simp [xorBytes]
    | cons y ys => simp [xorBytes, ih, Nat.succ_min_succ]

def zeros (n : Nat) : Bytes := List.replicate n 0

theorem zeros_succ (n : Nat) : zeros (n + 1) = 0 :: zeros n := rfl
@[simp] theorem zeros_length (n : Nat) : (zeros n).length = n := List.length_replicate

/-! ### the algebra of `xorBytes`: position-wise XOR, cut to the shorter argument -/

theorem xorBytes_eq_zipWith (a b : Bytes) : xorBytes a b = List.zipWith (· ^^^ ·) a b := by
  induction a generalizing b with
  | nil => rfl
  | cons x xs ih => cases b with
    | nil => rfl
    | cons y ys => simp [xorBytes, ih]

theorem getElem?_xorBytes (a b : Bytes) (i : Nat) :
    (xorBytes a b)[i]? = (a[i]?).bind fun x => (b[i]?).map fun y => x ^^^ y := by
  rw [xorBytes_eq_zipWith, List.getElem?_zipWith]
  cases a[i]? <;> cases b[i]? <;> rfl

@[simp] theorem xorBytes_nil_left (b : Bytes) : xorBytes [] b = [] := rfl
@[simp] theorem xorBytes_nil_right (a : Bytes) : xorBytes a [] = [] := by cases a <;> rfl

theorem xorBytes_comm (a b : Bytes) : xorBytes a b = xorBytes b a := by
  rw [xorBytes_eq_zipWith, xorBytes_eq_zipWith, List.zipWith_comm]
  simp only [BitVec.xor_comm]

theorem xorBytes_assoc (a b c : Bytes) : xorBytes (xorBytes a b) c = xorBytes a (xorBytes b c) := by
  apply List.ext_getElem?
  intro i
  simp only [getElem?_xorBytes]
  cases a[i]? <;> cases b[i]? <;> cases c[i]? <;> simp [BitVec.xor_assoc]

instance : Std.Commutative xorBytes := ⟨xorBytes_comm⟩
instance : Std.Associative xorBytes := ⟨xorBytes_assoc⟩

theorem xorBytes_take (a b : Bytes) (n : Nat) : (xorBytes a b).take n = xorBytes (a.take n) (b.take n) := by
  simp only [xorBytes_eq_zipWith, List.take_zipWith]

theorem xorBytes_drop (a b : Bytes) (n : Nat) : (xorBytes a b).drop n = xorBytes (a.drop n) (b.drop n) := by
  simp only [xorBytes_eq_zipWith, List.drop_zipWith]

theorem xorBytes_append (a b c d : Bytes) (h : a.length = c.length) :
    xorBytes (a ++ b) (c ++ d) = xorBytes a c ++ xorBytes b d := by
  simp only [xorBytes_eq_zipWith, List.zipWith_append h]

theorem xorBytes_take_right (a b : Bytes) (n : Nat) (h : a.length ≤ n) : xorBytes a (b.take n) = xorBytes a b := by
  have := xorBytes_take a b n
  rwa [List.take_of_length_le h, List.take_of_length_le (by rw [xorBytes_length]; omega), eq_comm] at this

theorem xorBytes_self (a : Bytes) : xorBytes a a = zeros a.length := by
  induction a with
  | nil => rfl
  | cons x xs ih => simp [xorBytes, ih, zeros_succ]

theorem xorBytes_zeros_right (a : Bytes) (n : Nat) (h : a.length ≤ n) : xorBytes a (zeros n) = a := by
  induction a generalizing n with
  | nil => rfl
  | cons x xs ih => cases n with
    | zero => simp at h
    | succ n => simp [zeros_succ, xorBytes, ih n (by simpa using h)]

theorem xorBytes_zeros_left (a : Bytes) (n : Nat) (h : a.length ≤ n) : xorBytes (zeros n) a = a := by
  rw [xorBytes_comm, xorBytes_zeros_right a n h]

theorem xorBytes_cancel_right (a k : Bytes) (h : a.length ≤ k.length) : xorBytes (xorBytes a k) k = a := by
  rw [xorBytes_assoc, xorBytes_self, xorBytes_zeros_right a _ h]

end LW
