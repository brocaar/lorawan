/-
  C13 — band data-rate, channel-plan and max-payload tables are closed and consistent.
  All obligations are about the tables REGENERATED from /repo on every run; each is decided by the Lean kernel over the
  complete finite domain (56 configurations, every version × revision key present, every data-rate, every channel).
-/
import LW.Proofs.Band
import LW.Generated.BandData
namespace LW.C13
open LW.Spec

/-- every data-rate index the band refers to (channel DR ranges, RX1 results, RX2 default, enabled uplink data-rates) is defined -/
theorem C13_closure : ∀ c ∈ Generated.allConfigs, closureViolations c = [] := by decide +kernel

/-- looking a defined data-rate up by its parameters in a direction it supports returns the same index … -/
theorem C13_lookup : ∀ c ∈ Generated.allConfigs, lookupViolations c = [] := by decide +kernel

/-- … and the parameters identify at most one data-rate per direction, so Go's random map iteration order cannot matter -/
theorem C13_lookup_unambiguous : ∀ c ∈ Generated.allConfigs, ambiguousParams c = [] := by decide +kernel

/-- under the latest (fallback) table every defined data-rate has a size, and unknown version / revision strings resolve to it -/
theorem C13_latest : ∀ c ∈ Generated.allConfigs, latestViolations c = [] := by decide +kernel

/-- the max-payload tables are filed under keys of the right kind (protocol versions outside, regional-parameters revisions inside,
"latest" in both): no table is out of reach of the (version, revision) lookup, and a string that is not a protocol version
resolves to the latest table.  (False before the repair recorded as c13-as923-rp002-table-misfiled: the AS923 configuration
"not repeater compatible, no dwell time" kept its RP002-1.0.0 table under the protocol-version key "RP002-1.0.0".) -/
theorem C13_keys : ∀ c ∈ Generated.allConfigs, keyKindViolations c = [] := by decide +kernel

/-- every listed size satisfies M = N + 8 and N ≤ 242 ((0,0) is the Regional Parameters' "N/A" marker) -/
theorem C13_sizes : ∀ c ∈ Generated.allConfigs, sizeViolations c = [] := by decide +kernel

/-- the "N/A" marker occurs only for data-rates excluded by a dwell-time limit (or CN470 DR0 with repeater) -/
theorem C13_na_cells : ∀ c ∈ Generated.allConfigs, ∀ cell ∈ allCells c,
    isNA cell.2.2.2.1 cell.2.2.2.2 = true → (c.dwell = 1 ∨ c.family = .cn470 ∨ c.family = .au915 ∨ c.family = .as923) := by decide +kernel

/-- repeater-compatible sizes never exceed the non-repeater ones, per (version, revision, data-rate) -/
theorem C13_repeater : ∀ cr ∈ Generated.allConfigs, ∀ cn ∈ Generated.allConfigs,
    cr.repeater = true → cn.repeater = false → cr.key = cn.key → cr.dwell = cn.dwell → repeaterViolations cr cn = [] := by decide +kernel

/-- sizes never shrink as the spreading factor decreases at equal bandwidth (between data-rates usable in a common direction) -/
theorem C13_sf_monotone : ∀ c ∈ Generated.allConfigs, sfMonoViolations c = [] := by decide +kernel

/-- default channel frequencies, RX2 defaults, TX-power steps of -2 dB and LoRa data-rate definitions equal the Regional Parameters values -/
theorem C13_defaults : ∀ c ∈ Generated.allConfigs, defaultsViolations c = [] := by decide +kernel

/-- the two-level fallback, for ANY table: a version key and revision key that are not present resolve to (latest, latest) -/
theorem C13_unknown_resolves (c : BandCfg) (ver rev : Nat) (dr : Int)
    (hv : lookupNat c.maxPayload ver = none)
    (hr : ∀ m, lookupNat c.maxPayload keyLatest = some m → lookupNat m rev = none) :
    c.getMaxPayload ver rev dr = c.getMaxPayload keyLatest keyLatest dr := by
  simp only [BandCfg.getMaxPayload, hv]
  cases h : lookupNat c.maxPayload keyLatest with
  | none => rfl
  | some m =>
    simp only [hr m h]
    cases lookupNat m keyLatest <;> rfl

end LW.C13
