/-
  C10 — isolation: no aliasing of caller buffers, no hidden shared state, race-free.
  What a pure model can carry, and what it cannot:
  * memory outside the slice given to EncryptFRMPayload: LW.Model.Slice models a Go slice with spare capacity and Go's append;
    C10_encryptfrm_memory is the clause for the repaired code, C10_old_code_wrote_spare_capacity states the repaired defect;
  * decoding into a used value: the model's decoders take the previous value of the receiver; the theorems state that no field of the
    result depends on it (every field is assigned from the input);
  * aliasing between decoded values / encoded output and caller buffers, band instances, data races: these are properties of Go's
    memory and scheduler. The model's functions are pure, so the model says "no aliasing" by construction; the harness OBSERVES the
    implementation (overwrite-and-look-again, canaries, two band instances, the race detector) and any observation other than
    `same` / `clean` is a violation. That part is testing, labelled as such (PARTIAL).
-/
import LW.Model.Slice
import LW.Proofs.CryptoSpec
namespace LW.C10
open LW.Slice

theorem overwrite_drop (arr v : Bytes) : (overwrite arr v).drop v.length = arr.drop v.length := List.drop_left

theorem overwrite_length (arr v : Bytes) (h : v.length ≤ arr.length) : (overwrite arr v).length = arr.length := by
  simp only [overwrite, List.length_append, List.length_drop]; omega

theorem bytes_length (s : GoSlice) (hs : s.len ≤ s.arr.length) : s.bytes.length = s.len := by
  simp only [GoSlice.bytes, List.length_take]; omega

/-- EncryptFRMPayload never modifies memory outside the slice it was given: whatever the spare capacity behind the slice holds,
it holds the same afterwards, and the backing array keeps its size -/
theorem C10_encryptfrm_memory (E : BlockCipher) (hE : E.Lawful) (key : Bytes) (up : Bool) (addr fcnt : BitVec 32) (s : GoSlice) (hs : s.len ≤ s.arr.length) :
    ((encryptFRMPayloadMem E key up addr fcnt s).2).drop s.len = s.arr.drop s.len ∧
    ((encryptFRMPayloadMem E key up addr fcnt s).2).length = s.arr.length ∧
    (encryptFRMPayloadMem E key up addr fcnt s).1 = encryptFRMPayload E key up addr fcnt s.bytes := by
  have hl : (encryptFRMPayload E key up addr fcnt s.bytes).length = s.len := by
    rw [CryptoSpec.frm_spec E hE, CryptoSpec.cryptFRM_length E hE, bytes_length s hs]
  unfold encryptFRMPayloadMem
  split
  · exact ⟨hl ▸ overwrite_drop _ _, overwrite_length _ _ (by omega), rfl⟩
  · exact ⟨rfl, rfl, rfl⟩

/-- EncryptFOpts, whether it transforms its argument or refuses it (more than 15 bytes), leaves the bytes behind the slice and the
size of the backing array unchanged -/
theorem C10_encryptfopts_memory (E : BlockCipher) (hE : E.Lawful) (key : Bytes) (af up : Bool) (addr fcnt : BitVec 32) (s : GoSlice) (hs : s.len ≤ s.arr.length) :
    ((encryptFOptsMem E key af up addr fcnt s).2).drop s.len = s.arr.drop s.len ∧
    ((encryptFOptsMem E key af up addr fcnt s).2).length = s.arr.length ∧
    (encryptFOptsMem E key af up addr fcnt s).1 = LW.encryptFOpts E key af up addr fcnt s.bytes := by
  have hb := bytes_length s hs
  unfold encryptFOptsMem
  rw [CryptoSpec.fopts_spec]
  by_cases h : s.bytes.length > 15
  · simp only [h, if_true]; exact ⟨trivial, trivial, trivial⟩
  · simp only [h, if_false]
    have hl : (Spec.cryptFOpts E key af up addr fcnt s.bytes).length = s.len := by
      rw [CryptoSpec.cryptFOpts_length E hE _ _ _ _ _ _ (by omega), hb]
    exact ⟨hl ▸ overwrite_drop _ _, overwrite_length _ _ (by omega), trivial⟩

/-- the defect that was repaired, stated on the model of the old code: with enough spare capacity behind a non block-aligned
slice the caller's array afterwards starts with the ciphertext of the PADDED payload, i.e. the `16 - len % 16` bytes after the
slice have been replaced by key-stream bytes -/
theorem C10_old_code_wrote_spare_capacity (E : BlockCipher) (key : Bytes) (up : Bool) (addr fcnt : BitVec 32) (s : GoSlice)
    (h : s.len % 16 ≠ 0) (hcap : s.len + (16 - s.len % 16) ≤ s.arr.length) :
    (encryptFRMPayloadMemOld E key up addr fcnt s).2 =
      overwrite (s.arr.take s.len ++ zeros (16 - s.len % 16) ++ s.arr.drop (s.len + (16 - s.len % 16)))
        (encryptFRMPayload E key up addr fcnt (s.arr.take s.len ++ zeros (16 - s.len % 16))) := by
  have hlt : (s.arr.take s.len).length = s.len := by simp; omega
  simp only [encryptFRMPayloadMemOld, if_neg h, goAppend, zeros_length, if_pos hcap, GoSlice.bytes]
  congr 2
  exact List.take_left' (by rw [List.length_append, hlt, zeros_length])

/-! ### decoding into a used value = decoding into a fresh one (the receiver-passing decoders of the model) -/

theorem C10_mac_payload_receiver_independent (k : Kind) (prev : MacP) (data : Bytes) : k.dec prev data = k.dec0 data := by
  rfl

theorem C10_chmask_receiver_independent (prev : BitVec 16) (data : Bytes) : chMaskDec prev data = chMaskDec 0 data := rfl

theorem C10_fhdr_receiver_independent (prev : FHDR) (data : Bytes) : FHDR.dec prev data = FHDR.dec {} data := rfl

theorem C10_macpayload_receiver_independent (ph : FHDR) (pp : Option Byte) (pf : List Item) (data : Bytes) :
    macDec ph pp pf data = macDec {} none [] data := rfl

theorem C10_joinaccept_receiver_independent (prev : JoinAccept) (data : Bytes) : JoinAccept.dec prev data = JoinAccept.dec {} data := rfl

theorem C10_cflist_receiver_independent (p1 : List (BitVec 32)) (p2 : List (BitVec 16)) (data : Bytes) :
    cfChannelsDec p1 data = cfChannelsDec (List.replicate 5 0) data ∧ cfMasksDec p2 data = cfMasksDec [] data := ⟨rfl, rfl⟩
end LW.C10
