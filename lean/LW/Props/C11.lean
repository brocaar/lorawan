/-
  C11 — DevAddr/NetID prefix algebra and identifier representations.
  All 2^24 NetIDs × all 2^32 DevAddrs by reasoning (per-bit characterisation); representations for every identifier value.
-/
import LW.Proofs.AddrArith
-- `^` on `Nat` in the statements of this file is Mathlib's `Monoid` power (definitionally the core one, which the lemmas of
-- `LW.Proofs` use): the statements have been read that way since they were written, and this import keeps it so.
import Mathlib.Algebra.Group.Nat.Defs
namespace LW.C11
open Outcome AddrProofs

/-- Assigning a NetID's prefix: every bit of the result is the one the addressing rules prescribe — type prefix 1^t 0 on
top, then the low w_t bits of the NetID's ID field (w = 6/6/9/11/12/13/15/17), the NwkAddr bits below untouched. -/
theorem C11_setPrefix (n : BitVec 24) (a : BitVec 32) (i : Nat) (hi : i < 32) :
    (setAddrPrefix a n).getLsbD i = Spec.addrBit n.getLsbD (n.toNat / 2 ^ 21) a.getLsbD i := by
  have ht := netIDType_lt n
  have hte := netIDType_eq n
  simp only [setAddrPrefix, prefixTable_spec _ ht]
  obtain ⟨hw, -⟩ := widths _ ht
  rw [raw_bit a _ _ n i hi (by omega)]
  simp only [Spec.addrBit, ← hte, netIDID]
  generalize netIDType n = t at *
  have e2 : 32 - (t + 1) = 31 - t := by omega
  rw [e2]
  by_cases h1 : i < 31 - t - Spec.nwkIDWidth t
  · simp [h1]
  · by_cases h2 : i < 31 - t
    · simp only [h1, h2, if_true, if_false]
      rw [getID_bit n _ _ (by omega), idBits_spec _ ht]
      rw [Bool.and_comm]
    · simp only [h1, h2, if_false, lit254_bit]
      by_cases h3 : i = 31 - t
      · simp [h3]
      · have : 1 ≤ i - (31 - t) ∧ i - (31 - t) < 8 := by omega
        simp [h3, this]

/-- the same rule in arithmetic form — prefix · 2^(31−t) + (ID mod 2^w) · 2^rest + (address mod 2^rest), the oracle every Go result is
compared with — is exactly what the code computes, for all 2^24 × 2^32 pairs -/
theorem C11_setPrefix_arith (n : BitVec 24) (a : BitVec 32) : (setAddrPrefix a n).toNat = Spec.addrWithPrefix n.toNat a.toNat := by
  -- both sides have the bits of `Spec.addrBit` below bit 32 and none above
  apply Nat.eq_of_testBit_eq
  intro i
  by_cases hi : i < 32
  · have ht : Spec.netIDTypeOf n.toNat = n.toNat / 2 ^ 21 := by
      unfold Spec.netIDTypeOf; have := n.isLt; omega
    rw [Spec.addrWithPrefix_bits _ _ i hi, ht]
    exact C11_setPrefix n a i hi
  · have hp : 2 ^ 32 ≤ 2 ^ i := Nat.pow_le_pow_right (by omega) (by omega)
    rw [Nat.testBit_lt_two_pow (Nat.lt_of_lt_of_le (setAddrPrefix a n).isLt hp),
      Nat.testBit_lt_two_pow (Nat.lt_of_lt_of_le (Spec.addrWithPrefix_lt _ _) hp)]

/-- … and so is the membership test: "the address has the NetID's type (number of leading ones) and its NwkID field equals the low
w bits of the NetID's ID" -/
theorem C11_isNetID_arith (n : BitVec 24) (a : BitVec 32) : isNetID a n = Spec.addrInNetID n.toNat a.toNat := by
  rw [Bool.eq_iff_iff, Spec.addrInNetID_iff _ _ a.isLt, ← C11_setPrefix_arith, isNetID, beq_iff_eq, BitVec.toNat_inj]

/-- the NwkAddr bits are untouched -/
theorem C11_nwkaddr_untouched (n : BitVec 24) (a : BitVec 32) (i : Nat)
    (hi : i < 31 - n.toNat / 2 ^ 21 - Spec.nwkIDWidth (n.toNat / 2 ^ 21)) :
    (setAddrPrefix a n).getLsbD i = a.getLsbD i := by
  rw [C11_setPrefix n a i (by omega)]
  simp only [Spec.addrBit]
  rw [if_pos hi]

/-- the membership test is true exactly for addresses carrying that type prefix and NwkID -/
theorem C11_isNetID_iff (n : BitVec 24) (a : BitVec 32) :
    isNetID a n = true ↔
      ∀ i, i < 32 → 31 - n.toNat / 2 ^ 21 - Spec.nwkIDWidth (n.toNat / 2 ^ 21) ≤ i →
        a.getLsbD i = Spec.addrBit n.getLsbD (n.toNat / 2 ^ 21) a.getLsbD i := by
  simp only [isNetID, beq_iff_eq]
  constructor
  · intro h i hi _
    rw [← C11_setPrefix n a i hi, ← h]
  · intro h
    apply BitVec.eq_of_getLsbD_eq
    intro i hi
    by_cases hlow : 31 - n.toNat / 2 ^ 21 - Spec.nwkIDWidth (n.toNat / 2 ^ 21) ≤ i
    · rw [C11_setPrefix n a i hi]; exact h i hi hlow
    · rw [C11_nwkaddr_untouched n a i (by omega)]

/-- an address that was given the prefix is a member; assigning is idempotent -/
theorem C11_prefixed_is_member (n : BitVec 24) (a : BitVec 32) : isNetID (setAddrPrefix a n) n = true := by
  rw [C11_isNetID_iff]
  intro i hi hlow
  rw [C11_setPrefix n a i hi]
  simp only [Spec.addrBit]
  have : ¬ i < 31 - n.toNat / 2 ^ 21 - Spec.nwkIDWidth (n.toNat / 2 ^ 21) := by omega
  rw [if_neg this, if_neg this]

/-- NetID type = top 3 bits -/
theorem C11_netIDType (n : BitVec 24) : netIDType n = n.toNat / 2 ^ 21 := AddrProofs.netIDType_eq n

/-- NetID ID field = low 6 / 9 / 21 bits by type -/
theorem C11_netIDID (n : BitVec 24) (j : Nat) (hj : j < 32) :
    (netIDID n).getLsbD j = (decide (j < Spec.netIDWidth (n.toNat / 2 ^ 21)) && n.getLsbD j) := by
  rw [netIDID, getID_bit n _ j hj, idBits_spec _ (netIDType_lt n), netIDType_eq]

/-- identifiers (EUI64 k=8, DevAddr k=4, NetID k=3, AES128Key k=16) survive text (hex, optional 0x), binary
(byte-reversed) and database representations; the binary form is the reversed value form -/
theorem C11_text (k v : Nat) (hv : v < 256 ^ k) : idOfText k (idText k v) = ok v := by
  simp only [idOfText, idText, hexOfBytes_toList, AddrProofs.strip0x_hex, hexDecodeChars_hexOfByte]
  simp [idBytes, leNat_leBytes_of_lt hv]
theorem C11_text_0x (k v : Nat) (hv : v < 256 ^ k) : idOfText k ("0x" ++ idText k v) = ok v := by
  have h0 : ("0x" ++ idText k v).toList = '0' :: 'x' :: (idBytes k v).flatMap hexOfByte := by
    simp [idText, hexOfBytes_toList]
  simp only [idOfText, h0, strip0x, hexDecodeChars_hexOfByte]
  simp [idBytes, leNat_leBytes_of_lt hv]
theorem C11_binary (k v : Nat) (hv : v < 256 ^ k) : idOfBinary k (idBinary k v) = ok v := by
  simp [idOfBinary, idBinary, leNat_leBytes_of_lt hv]
theorem C11_scan (k v : Nat) (hv : v < 256 ^ k) : idOfScan k (idBytes k v) = ok v := by
  simp [idOfScan, idBytes, leNat_leBytes_of_lt hv]
theorem C11_binary_reversed (k v : Nat) : idBinary k v = (idBytes k v).reverse := by simp [idBinary, idBytes]

/-- wrong-length inputs are rejected by all three decoders -/
theorem C11_wrong_length (k : Nat) (b : Bytes) (h : b.length ≠ k) : idOfBinary k b = err ∧ idOfScan k b = err := by
  simp [idOfBinary, idOfScan, h]

theorem C11_text_wrong_length (k : Nat) (b : Bytes) (h : b.length ≠ k) : idOfText k (hexOfBytes b) = err := by
  simp only [idOfText, hexOfBytes_toList, AddrProofs.strip0x_hex, hexDecodeChars_hexOfByte]
  simp [h]

/-! non-vacuity -/
example : setAddrPrefix 0xffffffff#32 0x600001#24 = 0xe003ffff#32 := by decide
example : isNetID 0xe003ffff#32 0x600001#24 = true := by decide

end LW.C11
