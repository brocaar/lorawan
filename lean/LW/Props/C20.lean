/-
  C20 — GPS-time conversion, airtime and EIRP coding helpers match their definitions.
  GPS: instants and durations are integer nanoseconds (any integer — no 1980..2100 bound); the leap table and the GPS epoch are
  REGENERATED from /repo through the gps hook. Airtime: the float64 expression of the code is modelled exactly.
-/
import LW.Proofs.Misc
import LW.Generated.LeapTable
import LW.Generated.EirpTable
namespace LW.C20
open Outcome MiscProofs

/-- UTC → time-since-GPS-epoch → UTC returns the same instant: for EVERY instant and ANY sorted leap table
(appending a future leap second cannot break it) -/
theorem C20_gps_roundtrip (tbl : LeapTable) (hs : Sorted tbl.entries) (t : Int) : fromGPS tbl (toGPS tbl t) = t := by
  rw [toGPS_eq]
  simp only [fromGPS]
  have : tbl.epoch + (t - tbl.epoch + cnt tbl.entries t) = t + cnt tbl.entries t := by omega
  rw [this]
  exact fold_undo tbl.entries t hs

/-- the mapping is strictly increasing -/
theorem C20_gps_strict_mono (tbl : LeapTable) (hs : Sorted tbl.entries) (t1 t2 : Int) (h : t1 < t2) : toGPS tbl t1 < toGPS tbl t2 := by
  rw [toGPS_eq, toGPS_eq]
  have := cnt_mono tbl.entries t1 t2 hs (by omega)
  omega

/-- GPS duration → UTC → GPS duration is the identity except for durations inside an inserted leap second -/
theorem C20_gps_inverse (tbl : LeapTable) (hs : SortedGap tbl.entries) (d : Int) (hd : ¬ inLeapSecond tbl d) :
    toGPS tbl (fromGPS tbl d) = d := by
  obtain ⟨t, ht⟩ := toGPS_onto tbl.epoch tbl.entries hs.sorted 0 d hd
  have e : d = toGPS tbl t := by rw [toGPS_eq]; omega
  rw [e, C20_gps_roundtrip tbl hs.sorted t]

/-- the regenerated table satisfies the hypotheses of the three theorems above … -/
theorem C20_generated_table_ok : Sorted Generated.leapTable.entries ∧ SortedGap Generated.leapTable.entries :=
  have h : SortedGap Generated.leapTable.entries := by decide +kernel
  ⟨h.sorted, h⟩

/-- … and is the published one (IERS dates, one second each, epoch 1980-01-06), so that for EVERY instant the offset applied
equals the published GPS − UTC leap-second count (this was false inside the last UTC second of each leap day before the
repair recorded as c20-gps-leap-boundary) -/
theorem C20_gps_offset (t : Int) : toGPS Generated.leapTable t = t - Spec.gpsEpoch + (Spec.gpsUtcOffset t : Int) * nsPerSec := by
  have hpub : Generated.leapTable.entries.map (fun e => (e.1 + nsPerSec, e.2)) = Spec.leapInstants.map (fun u => (u, nsPerSec)) ∧
      Generated.leapTable.epoch = Spec.gpsEpoch := by decide +kernel
  rw [toGPS_eq, cnt_published _ _ t hpub.1, hpub.2]
  rfl

/-- airtime bridge: the code's `math.Ceil(a/b)` on float64 equals the exact ⌈a/b⌉ on the property's whole domain
(payload 0..255 × SF 5..12 × header × low-data-rate optimisation); `fdivCeil_exact`: any numerator below 2^50 -/
theorem C20_ceil_exact : ∀ (pl : Fin 256) (s : Fin 8) (header ldro : Bool),
    fdivCeil (abOf pl.val (s.val + 5) header ldro).1 (abOf pl.val (s.val + 5) header ldro).2 =
    Spec.ceilDiv (abOf pl.val (s.val + 5) header ldro).1 (abOf pl.val (s.val + 5) header ldro).2 :=
  fun pl s header ldro => fdivCeil_exact (abOf_range pl s header ldro).1 (abOf_range pl s header ldro).2

/-- hence the payload-symbol count is the Semtech AN1200.13 formula for all coding rates on that domain … -/
theorem C20_airtime_formula (pl : Fin 256) (s : Fin 8) (cr : Int) (hcr : 1 ≤ cr ∧ cr ≤ 4) (header ldro : Bool) :
    payloadSymbols pl.val (s.val + 5) cr header ldro = ok (Spec.nPayload pl.val (s.val + 5) cr header ldro) := by
  have hc : ¬ (cr < 1 ∨ cr > 4) := by omega
  have hb := (abOf_range pl s header ldro).1
  have hce := C20_ceil_exact pl s header ldro
  simp only [abOf] at hce hb
  simp only [payloadSymbols, hc, if_false, Int.not_le.mpr hb, Spec.nPayload]
  rw [hce]
  congr 1
  have hh : (if (!header) = true then (1 : Int) else 0) = (if header = true then 0 else 1) := by cases header <;> rfl
  rw [hh]
  generalize Spec.ceilDiv _ _ * (cr + 4) = q
  by_cases hq : q > 0
  · simp only [hq, if_true]; omega
  · simp only [hq, if_false]; omega

/-- … and the whole time on air is the formula with the fixed-point floors, for every bandwidth and preamble length -/
theorem C20_airtime_total (pl : Fin 256) (s : Fin 8) (bw pre cr : Int) (hcr : 1 ≤ cr ∧ cr ≤ 4) (hbw : 0 < bw) (hpre : 0 ≤ pre) (header ldro : Bool) :
    airtime pl.val (s.val + 5) bw pre cr header ldro = ok (Spec.timeOnAir pl.val (s.val + 5) bw pre cr header ldro) := by
  have h1 : ¬ (bw == 0) = true := by simp; omega
  have h2 : ¬ ((((s.val : Nat) : Int) + 5 < 0) ∨ (((s.val : Nat) : Int) + 5 > 40)) := by omega
  simp only [airtime, symbolDuration, h1, if_false, h2, Outcome.ok_bind, C20_airtime_formula pl s cr hcr header ldro,
    preambleDuration, Spec.timeOnAir, Bool.false_eq_true]
  have hp : (0 : Int) ≤ 2 ^ (((s.val : Nat) : Int) + 5).toNat := Int.pow_nonneg (by decide)
  have e1 : Int.tdiv (2 ^ (((s.val : Nat) : Int) + 5).toNat * 1000000) bw = (2 ^ (((s.val : Nat) : Int) + 5).toNat * 1000000 : Int) / bw :=
    Int.tdiv_eq_ediv_of_nonneg (by omega)
  rw [e1]
  have ht : 0 ≤ (2 ^ (((s.val : Nat) : Int) + 5).toNat * 1000000 : Int) / bw := Int.ediv_nonneg (by omega) (by omega)
  generalize (2 ^ (((s.val : Nat) : Int) + 5).toNat * 1000000 : Int) / bw = tsym at ht
  have e2 : Int.tdiv ((100 * pre + 425) * tsym) 100 = (100 * pre + 425) * tsym / 100 :=
    Int.tdiv_eq_ediv_of_nonneg (Int.mul_nonneg (by omega) ht)
  rw [e2]

/-- time on air never decreases with the payload size — for ALL payload sizes and parameters (integer formula) -/
theorem C20_airtime_mono (pl pl' sf bw preamble cr : Int) (header ldro : Bool) (h : pl ≤ pl')
    (hsf : 0 < sf - 2 * (if ldro then 1 else 0)) (hcr : 0 ≤ cr) (hbw : 0 < bw) :
    Spec.timeOnAir pl sf bw preamble cr header ldro ≤ Spec.timeOnAir pl' sf bw preamble cr header ldro := by
  simp only [Spec.timeOnAir]
  have hn := nPayload_mono pl pl' sf cr header ldro h hsf hcr
  have hp : (0 : Int) ≤ 2 ^ sf.toNat := Int.pow_nonneg (by decide)
  have ht : 0 ≤ (2 ^ sf.toNat * 1000000 : Int) / bw := Int.ediv_nonneg (by omega) (by omega)
  have := Int.mul_le_mul_of_nonneg_right hn ht
  omega

/-- EIRP: the regenerated table is the specification's and strictly increasing … -/
theorem C20_eirp_table : Generated.eirpTable = Spec.eirpTable ∧ strictInc Generated.eirpTable = true := by decide

/-- … and for every float32 x (given by its bits, exact rational comparison) that is not below the first entry, the index chosen
is the largest table entry not exceeding x, and decodes to that entry -/
theorem C20_eirp (x : F32) (h0 : natGtF32 8 x = false) :
    let idx := eirpIndex Generated.eirpTable x
    idx < 16 ∧ natGtF32 (Generated.eirpTable.getD idx 0) x = false ∧
      (∀ j, j < 16 → natGtF32 (Generated.eirpTable.getD j 0) x = false → Generated.eirpTable.getD j 0 ≤ Generated.eirpTable.getD idx 0) ∧
      eirpOfIndex Generated.eirpTable idx = ok (Generated.eirpTable.getD idx 0) := by
  obtain ⟨a, b, c⟩ := eirp_largest C20_eirp_table.2 (by decide) h0
  exact ⟨a, b, c, eirpOfIndex_eq_ok.mpr ⟨a, rfl⟩⟩

/-! non-vacuity -/
example : toGPS Generated.leapTable 1483228799500000000 = 1167264016500000000 := by decide   -- 2016-12-31T23:59:59.5Z: offset 17
example : natGtF32 8 (f32OfBits 0x41a80000) = false ∧ eirpIndex Generated.eirpTable (f32OfBits 0x41a80000) = 8 := by decide  -- 21.0 dBm

end LW.C20
