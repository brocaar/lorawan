/-
  C19 — the fragmentation encoder is systematic, linear and uses the TS004 parity matrix.
  `encodeWith line` is the encoder for an ARBITRARY parity-line function; `encode = encodeWith (matrixLine fuel)`.
  All theorems hold for every data block, fragment size and redundancy (no bound).
  Recovery (C19_recovery, C19_recovery_block) is stated for ANY collection of received fragments, in certificate form.
-/
import LW.Proofs.FragRecover
namespace LW.C19
open Outcome FragProofs

/-- systematic + count + parity: a successful encoding consists of the data fragments unchanged and in order, followed by
exactly `redundancy` parity fragments, fragment y (1-based) being the XOR of exactly the data fragments selected by line y -/
theorem C19_structure (line : Nat → Nat → Option (List Bool)) (data : Bytes) (size red : Int) (out : List Bytes)
    (h : encodeWith line data size red = ok out) :
    0 < size ∧ data.length % size.toNat = 0 ∧
    ∃ parity : List Bytes,
      out = rowsOf (data.length / size.toNat) size.toNat data ++ parity ∧
      parity.length = red.toNat ∧
      ∀ y, y < red.toNat → ∃ l, line (y + 1) (data.length / size.toNat) = some l ∧
        parity[y]? = some (xorSelected size.toNat l (rowsOf (data.length / size.toNat) size.toNat data)) := by
  obtain ⟨hs, hd, ls, -, rfl⟩ := encodeWith_eq_ok.mp h
  refine ⟨hs, hd, _, rfl, ?_, fun y hy => ?_⟩
  · have := encodeWith_length h
    rw [List.length_append, rowsOf_length] at this
    omega
  · obtain ⟨l, hl, hp⟩ := encodeWith_parity h hy
    rw [List.getElem?_append_right (by rw [rowsOf_length]; omega), rowsOf_length, Nat.add_sub_cancel_left] at hp
    exact ⟨l, hl, hp⟩

/-- the data fragments are the data: concatenated they give the block back -/
theorem C19_systematic (k size : Nat) (data : Bytes) (h : data.length = k * size) : (rowsOf k size data).flatten = data :=
  rowsOf_flatten k size data h

/-- linear over XOR: encode (a ⊕ b) = encode a ⊕ encode b, fragment by fragment -/
theorem C19_linear (line : Nat → Nat → Option (List Bool)) (a b : Bytes) (size red : Int) (hab : a.length = b.length)
    (oa ob : List Bytes) (h1 : encodeWith line a size red = ok oa) (h2 : encodeWith line b size red = ok ob) :
    encodeWith line (xorBytes a b) size red = ok (zipXor oa ob) := by
  obtain ⟨hs, hd, ls, hls, rfl⟩ := encodeWith_eq_ok.mp h1
  obtain ⟨-, -, ls', hls', rfl⟩ := encodeWith_eq_ok.mp h2
  -- the lines depend on the number of rows only
  rw [← hab, hls] at hls'
  cases hls'
  have hlen : (xorBytes a b).length = a.length := by rw [xorBytes_length]; omega
  refine encodeWith_eq_ok.mpr ⟨hs, by rw [hlen]; exact hd, ls, by rw [hlen]; exact hls, ?_⟩
  have hrows : (rowsOf (a.length / size.toNat) size.toNat a).length = (rowsOf (a.length / size.toNat) size.toNat b).length := by
    rw [rowsOf_length, rowsOf_length]
  rw [hlen, ← hab, rowsOf_xor, zipXor_append _ _ _ _ hrows, map_zipXor]
  simp only [xorSelected_linear _ _ _ _ hrows]

/-- the parity line the code uses is the TS004 pseudo-code (bit-operation form), both branches of is_power2 -/
theorem C19_matrix (fuel n m : Nat) : matrixLine fuel n m = Spec.matrixLine fuel n m := by
  unfold matrixLine Spec.matrixLine
  rw [matrixLine_go_spec]
  rfl

/-- invalid sizes — zero, negative, non-dividing — are reported as errors, never panics
(size ≤ 0 was a divide-by-zero panic / a silently empty result before the repair recorded as c19-encode-invalid-size) -/
theorem C19_errors (line : Nat → Nat → Option (List Bool)) (data : Bytes) (size red : Int)
    (h : size ≤ 0 ∨ data.length % size.toNat ≠ 0) : encodeWith line data size red = err := by
  simp only [encodeWith]
  rcases h with h | h
  · simp [h]
  · by_cases hs : size ≤ 0
    · simp [hs]
    · simp [hs, h]

/-- with a line function that always answers (no fuel exhaustion) a valid request never fails -/
theorem C19_total (line : Nat → Nat → Option (List Bool)) (hline : ∀ n m, (line n m).isSome) (data : Bytes) (size red : Int)
    (hs : 0 < size) (hd : data.length % size.toNat = 0) : (encodeWith line data size red).isOk = true := by
  obtain ⟨ls, hls⟩ := Option.isSome_iff_exists.mp (linesOf_isSome line hline (data.length / size.toNat) red.toNat 0)
  exact isOk_iff.mpr ⟨_, encodeWith_eq_ok.mpr ⟨hs, hd, ls, hls, rfl⟩⟩

/-- every fragment the encoder hands out — data or parity — is the XOR of the data fragments named by its selection vector
(unit vector for data fragment t, parity-matrix line t − w + 1 for a parity fragment) -/
theorem C19_fragment_selection (line : Nat → Nat → Option (List Bool)) (data : Bytes) (size red : Int) (out : List Bytes)
    (h : encodeWith line data size red = ok out) (t : Nat) (f : Bytes) (hf : out[t]? = some f) :
    ∃ v, selOf line (data.length / size.toNat) t = some v ∧
      f = xorSelected size.toNat v (rowsOf (data.length / size.toNat) size.toNat data) := by
  obtain ⟨-, hd, -⟩ := encodeWith_eq_ok.mp h
  by_cases ht : t < data.length / size.toNat
  · rw [encodeWith_data h ht] at hf
    exact ⟨_, selOf_data ht, (xorSelected_unit size.toNat _ t _ f hf (by rw [rowsOf_length]; omega)
      (rowsOf_row_length_div hd f (List.mem_of_getElem? hf))).symm⟩
  · obtain ⟨y, rfl⟩ : ∃ y, t = data.length / size.toNat + y := ⟨t - data.length / size.toNat, by omega⟩
    have hy : y < red.toNat := by
      have := (List.getElem?_eq_some_iff.mp hf).1; rw [encodeWith_length h] at this; omega
    obtain ⟨l, hl, hpy⟩ := encodeWith_parity h hy
    rw [hpy] at hf
    exact ⟨l, (selOf_parity line _ y).trans hl, (Option.some.inj hf).symm⟩

/-- recovery, one data fragment: `recv` is ANY collection of fragments of the encoding that arrived, each with its selection
vector.  If a combination `c` of the received selection vectors is the unit vector of data fragment j (such a `c` exists for
every j exactly when the vectors have full rank — it is what Gaussian elimination computes), then the same combination of
the received fragments is data fragment j.  `hlen` holds for the code's line function (`C19_matrix_line_length`). -/
theorem C19_recovery (line : Nat → Nat → Option (List Bool)) (data : Bytes) (size red : Int) (out : List Bytes)
    (h : encodeWith line data size red = ok out)
    (hlen : ∀ n l, line n (data.length / size.toNat) = some l → l.length = data.length / size.toNat)
    (recv : List (List Bool × Bytes))
    (hrecv : ∀ p ∈ recv, ∃ t, out[t]? = some p.2 ∧ selOf line (data.length / size.toNat) t = some p.1)
    (c : List Bool) (j : Nat) (r : Bytes) (hj : (rowsOf (data.length / size.toNat) size.toNat data)[j]? = some r)
    (hc : combVec (data.length / size.toNat) c (recv.map (·.1)) = unitVec (data.length / size.toNat) j) :
    xorSelected size.toNat c (recv.map (·.2)) = r := by
  obtain ⟨-, hd, -⟩ := C19_structure line data size red out h
  have e : recv.map (·.2) = (recv.map (·.1)).map (fun v => xorSelected size.toNat v (rowsOf (data.length / size.toNat) size.toNat data)) := by
    rw [List.map_map]
    apply List.map_congr_left
    intro p hp
    obtain ⟨t, ht, hsel⟩ := hrecv p hp
    obtain ⟨v, hv, hf⟩ := C19_fragment_selection line data size red out h t p.2 ht
    rw [hsel] at hv
    cases hv
    exact hf
  rw [e]
  refine recover size.toNat _ _ (rowsOf_length _ _ _) (rowsOf_row_length_div hd) c _ ?_ j r hj hc
  intro v hv
  obtain ⟨p, hp, rfl⟩ := List.mem_map.mp hv
  obtain ⟨t, -, hsel⟩ := hrecv p hp
  exact selOf_length line _ t p.1 hlen hsel

/-- recovery, whole block: with one such combination per data fragment (full rank) the independent decoder gets the
original block back, whatever subset of fragments arrived -/
theorem C19_recovery_block (line : Nat → Nat → Option (List Bool)) (data : Bytes) (size red : Int) (out : List Bytes)
    (h : encodeWith line data size red = ok out)
    (hlen : ∀ n l, line n (data.length / size.toNat) = some l → l.length = data.length / size.toNat)
    (recv : List (List Bool × Bytes))
    (hrecv : ∀ p ∈ recv, ∃ t, out[t]? = some p.2 ∧ selOf line (data.length / size.toNat) t = some p.1)
    (cs : List (List Bool)) (hcs : cs.length = data.length / size.toNat)
    (hfull : ∀ j c, cs[j]? = some c → combVec (data.length / size.toNat) c (recv.map (·.1)) = unitVec (data.length / size.toNat) j) :
    (cs.map (fun c => xorSelected size.toNat c (recv.map (·.2)))).flatten = data := by
  obtain ⟨-, hd, -⟩ := C19_structure line data size red out h
  have hdl := length_eq_rows_mul data size.toNat hd
  have e : cs.map (fun c => xorSelected size.toNat c (recv.map (·.2))) = rowsOf (data.length / size.toNat) size.toNat data := by
    apply List.ext_getElem (by rw [List.length_map, hcs, rowsOf_length])
    intro j hj hjr
    rw [List.getElem_map]
    exact C19_recovery line data size red out h hlen recv hrecv _ j _ (List.getElem?_eq_getElem hjr)
      (hfull j _ (List.getElem?_eq_getElem (by simpa using hj)))
  rw [e]
  exact rowsOf_flatten _ _ data hdl

theorem C19_matrix_line_length (fuel n m : Nat) (l : List Bool) (h : matrixLine fuel n m = some l) : l.length = m := by
  rw [matrixLine_go_length _ _ _ _ _ _ _ h]; simp

/- 6 data fragments of 2 bytes, 3 parity fragments; data fragment 0 is lost, fragment 1 and parity fragment 1 (line
[1,1,0,0,0,0]) arrive: their XOR is data fragment 0, and the hypotheses of C19_recovery are met by this instance -/
example : xorSelected 2 [true, true] [[3, 4], [2, 6]] = ([1, 2] : Bytes) := by
  have h : encodeWith (matrixLine fragFuel) [1, 2, 3, 4, 5, 6, 7, 8, 9, 10, 11, 12] 2 3
      = ok [[1, 2], [3, 4], [5, 6], [7, 8], [9, 10], [11, 12], [2, 6], [15, 0], [5, 14]] := by decide
  exact C19_recovery (matrixLine fragFuel) [1, 2, 3, 4, 5, 6, 7, 8, 9, 10, 11, 12] 2 3 _ h
    (fun n l hl => C19_matrix_line_length fragFuel n _ l hl)
    [(unitVec 6 1, [3, 4]), ([true, true, false, false, false, false], [2, 6])]
    (by
      intro p hp
      simp only [List.mem_cons, List.not_mem_nil, or_false] at hp
      rcases hp with rfl | rfl
      · exact ⟨1, by decide, by decide⟩
      · exact ⟨6, by decide, by decide⟩)
    [true, true] 0 [1, 2] (by decide) (by decide)
example : (encode [1, 2, 3, 4, 5, 6, 7, 8] 2 2).isOk = true := by decide

end LW.C19
