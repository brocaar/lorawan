/-
  C04 — join / rejoin / join-accept MICs and join-accept encryption follow the specification.
  For every block cipher; `Lawful` (enc/dec inverse on 16-byte blocks, 16-byte outputs) only where decryption is involved.
-/
import LW.Proofs.CryptoSpec
import LW.Proofs.JoinAcceptRT
namespace LW.C04
open Outcome

/-- join-request and rejoin-request (types 0, 1, 2): MIC = cmac(key, MHDR | payload)[0..3] -/
theorem C04_join_mic (E : BlockCipher) (key : Bytes) (p : PHY) (pl : MacPL) (b : Bytes)
    (hp : p.payload = some pl) (hb : pl.enc = ok b) :
    calcUplinkJoinMIC E key p = ok (Spec.micJoin E key (mhdrEnc p.mtype p.major) b) := by
  simp only [calcUplinkJoinMIC, hp, hb, Outcome.ok_bind, Spec.micJoin]

/-- join-accept: 1.0 form over MHDR | payload, or with OptNeg the 1.1 form additionally covering JoinReqType | JoinEUI(LE) | DevNonce(LE) -/
theorem C04_ja_mic (E : BlockCipher) (jt : Byte) (eui : BitVec 64) (dn : BitVec 16) (key : Bytes) (p : PHY) (ja : JoinAccept) (b : Bytes)
    (hp : p.payload = some (.joinAccept ja)) (hb : ja.enc = ok b) :
    calcDownlinkJoinMIC E jt eui dn key p = ok (Spec.micJoinAccept E key ja.optNeg jt eui dn (mhdrEnc p.mtype p.major) b) :=
  CryptoSpec.ja_mic_spec E jt eui dn key p ja b hp hb

/-- the ciphertext is exactly the specification's: aes128_decrypt in ECB over payload | MIC -/
theorem C04_ja_encrypt (E : BlockCipher) (key : Bytes) (p : PHY) (ja : JoinAccept) (b : Bytes)
    (hp : p.payload = some (.joinAccept ja)) (hb : ja.enc = ok b) (hm : p.mic.length = 4) (hl : (b ++ p.mic).length % 16 = 0) :
    p.encryptJA E key =
      ok { p with payload := some (.data ((Spec.encryptJoinAccept E key (b ++ p.mic)).take ((Spec.encryptJoinAccept E key (b ++ p.mic)).length - 4))),
                  mic := (Spec.encryptJoinAccept E key (b ++ p.mic)).drop ((Spec.encryptJoinAccept E key (b ++ p.mic)).length - 4) } :=
  CryptoSpec.ja_encrypt_spec E key p ja b hp hb hm hl

/-- a device applying aes128_encrypt block-wise recovers payload | MIC (12+4 and 28+4 bytes are the multiples of 16) -/
theorem C04_ja_device (E : BlockCipher) (hE : E.Lawful) (key : Bytes) (pm : Bytes) (hl : pm.length % 16 = 0) :
    Spec.deviceDecryptJoinAccept E key (Spec.encryptJoinAccept E key pm) = pm :=
  CryptoSpec.ja_device E hE key pm hl

theorem C04_ja_sizes (ja : JoinAccept) (b : Bytes) (h : ja.enc = ok b) :
    (ja.cfList = none → b.length = 12) ∧ (ja.cfList ≠ none → b.length = 28) := by
  have hl := FrameRT.joinAccept_enc_length h
  cases hc : ja.cfList with
  | none => rw [hc] at hl; exact ⟨fun _ => hl, fun hne => absurd rfl hne⟩
  | some l => rw [hc] at hl; exact ⟨nofun, fun _ => hl⟩

/-- the whole round trip at the library's own level: EncryptJoinAcceptPayload followed by DecryptJoinAcceptPayload with the same key
gives back the frame — payload decoded to the same JoinAcceptPayload (CFList absent or canonical), MIC restored -/
theorem C04_ja_encrypt_decrypt (E : BlockCipher) (hE : E.Lawful) (key : Bytes) (p q : PHY) (ja : JoinAccept)
    (hp : p.payload = some (.joinAccept ja)) (hcf : ∀ l, ja.cfList = some l → FrameRT.cfListCanonical l = true) (hm : p.mic.length = 4)
    (henc : p.encryptJA E key = ok q) : q.decryptJA E key = ok p := by
  have hmt : p.mic.take 4 = p.mic := List.take_of_length_le (by omega)
  have hinv := henc
  simp only [PHY.encryptJA, hp, hmt, bind_eq_ok, ite_err_eq_ok] at hinv
  obtain ⟨b, hb, hl, -⟩ := hinv
  have hl : (b ++ p.mic).length % 16 = 0 := by simpa using hl
  rw [CryptoSpec.ja_encrypt_spec E key p ja b hp hb hm hl] at henc
  cases ok.inj henc
  have hctl := CryptoSpec.encryptJoinAccept_length E hE key (b ++ p.mic) hl
  have hdec : ((Spec.blocks ((Spec.encryptJoinAccept E key (b ++ p.mic)).length / 16) (Spec.encryptJoinAccept E key (b ++ p.mic))).map
      (E.enc key)).flatten = b ++ p.mic := CryptoSpec.ja_device E hE key (b ++ p.mic) hl
  have hlen : (b ++ p.mic).length = b.length + 4 := by simp [hm]
  simp only [PHY.decryptJA, List.take_append_drop]
  rw [hctl, if_neg (by rw [hl]; decide), CryptoSpec.ecb_spec, ← hctl, hdec, if_neg (by omega), take_sub_append hm, drop_sub_append hm, FrameRT.joinAccept_rt ja b hcf hb]
  obtain ⟨mt, mj, pl, mic⟩ := p
  cases (hp : pl = _)
  rfl

end LW.C04
