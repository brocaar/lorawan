/-
  C08 — accepted frames are canonical: every byte string the frame decoder accepts (with the three reserved MHDR
  bits zero) re-encodes without error to exactly the received bytes, and decoding that output again gives an equal frame.
  Model: LW.Model.Frame (mirror of phypayload.go / macpayload.go / fhdr.go / payload.go).
-/
import LW.Proofs.FrameRT
namespace LW.C08
open Outcome

/-- all byte strings, all lengths, all 8 MTypes -/
theorem C08_canonical (data : Bytes) (f : PHY) (hdec : PHY.dec data = ok f) (hrfu : (data.getD 0 0) &&& 0x1c#8 = 0#8) :
    f.enc = ok data :=
  FrameRT.phy_canonical data f hdec hrfu

/-- … and decoding the re-encoding yields an equal frame (so verify-MIC / forward / log never change a received frame) -/
theorem C08_stable (data : Bytes) (f : PHY) (hdec : PHY.dec data = ok f) (hrfu : (data.getD 0 0) &&& 0x1c#8 = 0#8) :
    ∃ out, f.enc = ok out ∧ out = data ∧ PHY.dec out = ok f :=
  ⟨data, C08_canonical data f hdec hrfu, rfl, hdec⟩

/-! non-vacuity -/
example : (PHY.dec [0x40, 4, 3, 2, 1, 0x80, 7, 0, 1, 0xaa, 0xbb, 1, 2, 3, 4]).isOk = true := by decide

end LW.C08
