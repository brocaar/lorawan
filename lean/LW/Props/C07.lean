/-
  C07 — MAC-command encoding is lossless-or-error; command streams are self-delimiting.
  The property theorems, and the two general facts the registry ones follow from (`registry_eq_spec`, `lookup_register`).
  The model is LW.Model.Mac (mirror of /repo/mac_commands.go, tied by the correspondence run); the registry is
  regenerated from /repo.
-/
import LW.Proofs.Stream
import LW.Generated.Registry
namespace LW.C07
open Outcome

/-- Lossless or error, over the FULL Go field domains of all 30 payload types (no range hypothesis):
whenever the encoder returns bytes, decoding them into a fresh value gives the same value back
(`Spec.wireNorm`: DeviceTimeAns is rounded down to the 1/256 s wire resolution, everything else unchanged). -/
theorem C07_lossless (v : MacP) (bs : Bytes) (h : v.enc = ok bs) :
    v.kind.dec0 bs = ok (Spec.wireNorm v) :=
  MacRT.lossless v bs h

/-- Every value inside the specification's field ranges is accepted by the encoder. -/
theorem C07_accepts (v : MacP) (h : (Spec.toFields v).isSome = true) : v.enc.isOk = true :=
  MacRT.accepts v h

/-- An out-of-range value is never silently turned into a *different* command: if it is accepted at all,
the bytes decode to exactly that value (corollary of `C07_lossless`, stated for emphasis). -/
theorem C07_never_truncates (v : MacP) (bs : Bytes) (v' : MacP) (h : v.enc = ok bs) (hd : v.kind.dec0 bs = ok v') :
    v' = Spec.wireNorm v := by
  rw [C07_lossless v bs h] at hd
  exact (ok.inj hd).symm

/-- the encoded length of every payload is the length its decoder insists on -/
theorem C07_enc_length (v : MacP) (bs : Bytes) (n : Nat) (h : v.enc = ok bs) (hn : v.kind.wireSize = some n) : bs.length = n := by
  rcases MacSpec.enc_inv (MacSpec.enc_sound h) with rfl | ⟨vals, -, rfl⟩
  · cases hn
  · rw [Pack.pack_length, MacRT.wireSize_layout _ n hn]

/-- Registered sizes (REGENERATED from /repo on every run) equal the decoder's length for the registered payload type,
hence (previous theorem) the encoded length: this is what makes the stream decoder's `i += size` correct. -/
theorem C07_registry_sizes : ∀ e ∈ Generated.registry, e.kind.wireSize = some e.size.toNat ∧ 0 < e.size := by decide

-- rests on harness/dump.go probing downlink then uplink, CIDs ascending: the order `Spec.registry` is built in
theorem registry_eq_spec : Generated.registry = Spec.registry := by decide

/-- The regenerated registry is exactly the specification's (CID, direction) table: same payload type and size for
all 2 × 256 keys, nothing more, nothing less. -/
theorem C07_registry_is_spec :
    ∀ up : Bool, ∀ cid : Fin 256, Generated.registry.lookup up cid.val = Spec.registry.lookup up cid.val := by
  rw [registry_eq_spec]; exact fun _ _ => rfl

/-- Streams are self-delimiting, for ANY registry (so for every history of proprietary registrations), any direction and
command lists of ANY length: a sequence of commands framed consistently with the registry, concatenated, decodes into
exactly that sequence. -/
theorem C07_stream (reg : Registry) (up : Bool) (cmds : List MacCmd) (bs : Bytes)
    (hw : ∀ c ∈ cmds, Stream.WellFramed reg up c) (he : encodeCmds cmds = ok bs) :
    decodeStream reg up bs = ok (cmds.map Stream.normCmd) :=
  Stream.stream_rt reg up cmds bs hw he

theorem lookup_register (reg reg' : Registry) (up : Bool) (cid : Nat) (size : Int)
    (h : reg.register up cid size = ok reg') (hs : size ≠ 0) (u : Bool) (c : Nat) :
    reg'.lookup u c =
      if u = up ∧ c = cid then some { uplink := up, cid := cid, size := size, kind := .proprietary } else reg.lookup u c := by
  simp only [Registry.register, ite_err_eq_ok, ok.injEq, beq_iff_eq, hs, if_false] at h
  obtain ⟨-, -, rfl⟩ := h
  simp only [Registry.lookup, List.find?_cons, List.find?_filter]
  -- the new entry answers exactly its own key; for any other key the search skips it, and what the filter removed (entries
  -- under the new key) could not have answered: `find?` over the filtered list is `find?` with the conjoined test
  by_cases hk : u = up ∧ c = cid
  · simp [hk]
  · rw [if_neg hk]
    have : ((up == u) && (cid == c)) = false := by
      cases hb : ((up == u) && (cid == c)) with
      | false => rfl
      | true => simp only [Bool.and_eq_true, beq_iff_eq] at hb; exact absurd ⟨hb.1.symm, hb.2.symm⟩ hk
    simp only [this]
    congr 1
    funext e
    by_cases hq : (e.uplink == u && e.cid == c) = true
    · have : ¬ (e.uplink = up ∧ e.cid = cid) := by
        simp only [Bool.and_eq_true, beq_iff_eq] at hq
        rw [hq.1, hq.2]; exact hk
      simp [hq, Classical.not_and_iff_not_or_not.mp this]
    · simp [hq]

/-- A proprietary registration is visible with its size in its own direction … -/
theorem C07_register_framed (reg reg' : Registry) (up : Bool) (cid : Nat) (size : Int)
    (h : reg.register up cid size = ok reg') (hs : size ≠ 0) :
    reg'.lookup up cid = some { uplink := up, cid := cid, size := size, kind := .proprietary } := by
  rw [lookup_register reg reg' up cid size h hs, if_pos ⟨rfl, rfl⟩]

/-- … and in that direction only: the other direction's lookup is unchanged for every CID. -/
theorem C07_register_dir (reg reg' : Registry) (up : Bool) (cid : Nat) (size : Int) (c : Nat)
    (h : reg.register up cid size = ok reg') : reg'.lookup (!up) c = reg.lookup (!up) c := by
  by_cases hs : size = 0
  · simp only [Registry.register, ite_err_eq_ok, ok.injEq, beq_iff_eq, hs, if_true] at h
    rw [← h.2.2]
  · rw [lookup_register reg reg' up cid size h hs, if_neg (by cases up <;> simp)]

/-- registration only accepts the proprietary CID range 0x80–0xFF and non-negative sizes -/
theorem C07_register_range (reg : Registry) (up : Bool) (cid : Nat) (size : Int) :
    (reg.register up cid size).isOk = (decide (128 ≤ cid ∧ cid ≤ 255) && decide (0 ≤ size)) := by
  rw [Bool.eq_iff_iff, Bool.and_eq_true, decide_eq_true_eq, decide_eq_true_eq]
  simp only [Registry.register, ite_err_isOk, Bool.not_eq_true', decide_eq_false_iff_not, Decidable.not_not]
  constructor
  · rintro ⟨h1, h2, -⟩; exact ⟨h1, by omega⟩
  · rintro ⟨h1, h2⟩
    refine ⟨h1, by omega, ?_⟩
    split <;> rfl

/-! ### non-vacuity: concrete values meet the hypotheses -/

example : (Spec.toFields (.linkADRReq 5 3 0xff00 6 1)).isSome = true := by decide
example : (MacP.linkADRReq 5 3 0xff00 6 1).enc = ok [0x53, 0x00, 0xff, 0x61] := by decide
example : Stream.WellFramed Generated.registry false { cid := 3, payload := some (.linkADRReq 5 3 0xff00 6 1) } :=
  ⟨{ uplink := false, cid := 3, size := 4, kind := .linkADRReq }, [0x53, 0x00, 0xff, 0x61], by decide, rfl, by decide, by decide, by decide⟩
example : Stream.WellFramed Generated.registry true { cid := 2, payload := none } := by
  show Generated.registry.lookup true 2 = none
  decide

end LW.C07
