/-
  C16 — join-server answers are usable by a spec-conformant device and network server.
  Model: LW.Model.JoinServer (the JoinReq / RejoinReq flows of backend/joinserver as a function of the request and of what the
  configuration callbacks return). Device and server side: LW.Spec.JoinServer (written from the LoRaWAN 1.0.x / 1.1 specifications).
  All theorems hold for ANY lawful block cipher, all keys, EUIs, nonces, NetIDs, addresses and settings.
-/
import LW.Proofs.JoinServer
namespace LW.C16
open Outcome LW.JS

/-- every answer mirrors sender, receiver and transaction id (whatever the request, also on errors) -/
theorem C16_mirror (E : BlockCipher) (q : Req) (c : Conf) :
    (serve E q c).sender = q.receiver ∧ (serve E q c).receiver = q.sender ∧ (serve E q c).txid = q.txid ∧
    (serve E q c).msgType = (if q.rejoin then "RejoinAns" else "JoinAns") := by
  unfold serve
  cases c.device with
  | none => exact ⟨rfl, rfl, rfl, rfl⟩
  | some d =>
    simp only
    split <;> (try split) <;> exact ⟨rfl, rfl, rfl, rfl⟩

theorem C16_unknown_device (E : BlockCipher) (q : Req) (c : Conf) (h : c.device = none) :
    (serve E q c).code = 400 ∧ (serve E q c).result = "UnknownDevEUI" := by
  unfold serve; rw [h]; exact ⟨rfl, rfl⟩

theorem C16_wrong_mic (E : BlockCipher) (q : Req) (c : Conf) (nwkKey appKey : Bytes) (nonce : Int) (phy : PHY) (netID joinEUI : Nat)
    (je de : BitVec 64) (dn : BitVec 16)
    (hr : q.rejoin = false) (hd : c.device = some (nwkKey, appKey, nonce)) (hlf : c.lookupFails = false)
    (hp : PHY.dec q.phy = ok phy) (hn : idOfText 3 q.sender = ok netID)
    (hj : idOfText 8 q.receiver = ok joinEUI) (hpl : phy.payload = some (.joinReq je de dn))
    (hm : validateMIC phy (calcUplinkJoinMIC E nwkKey phy) = ok false) :
    (serve E q c).result = "MICFailed" ∧ (serve E q c).code = 200 := by
  have hctx : joinContext E q nwkKey nonce = .error .mic := by
    unfold joinContext
    simp only [hp, hn, hj, hpl, hm, liftO_ok, R.ok_bind]
    rfl
  have hflow : joinFlow E q c nwkKey appKey nonce = .error .mic := by
    unfold joinFlow; rw [hctx]; rfl
  unfold serve
  simp only [hd, hr, hlf, Bool.false_eq_true, if_false, hflow]
  trivial

/-- a key-encryption-key / label lookup that fails (the configuration callbacks return an error) never yields Success: no
join-accept and no session keys are handed out -/
theorem C16_lookup_failure (E : BlockCipher) (q : Req) (c : Conf) (d : Bytes × Bytes × Int) (hd : c.device = some d) (hlf : c.lookupFails = true) :
    (serve E q c).result = "Other" ∧ (serve E q c).code = 500 ∧ (serve E q c).phy = [] ∧ (serve E q c).appSKey = none ∧ (serve E q c).nwkSKey = none := by
  unfold serve
  simp only [hd, hlf, if_true]
  trivial

/-- a device-key store that fails (with anything but "not found") never yields Success, a frame or keys; the answer is still mirrored;
when the store works the answer is `serve`'s, to which the theorems of this file apply -/
theorem C16_store_failure (E : BlockCipher) (q : Req) (c : Conf) :
    (serveStore true E q c).result = "Other" ∧ (serveStore true E q c).code = 400 ∧ (serveStore true E q c).phy = [] ∧
    (serveStore true E q c).appSKey = none ∧ (serveStore true E q c).nwkSKey = none ∧ (serveStore true E q c).fNwkSIntKey = none ∧
    (serveStore true E q c).sender = q.receiver ∧ (serveStore true E q c).receiver = q.sender ∧ (serveStore true E q c).txid = q.txid ∧
    serveStore false E q c = serve E q c := by
  simp [serveStore]

/-- JOIN-REQUEST with a correct MIC for a known device: Success; the device decrypts the join-accept (aes128_encrypt under NwkKey)
to exactly JoinNonce | NetID | requested DevAddr | DLSettings | RxDelay | CFList, its MIC verifies (1.0 form under NwkKey, or 1.1 form
under JSIntKey when OptNeg), and the key envelopes open with the configured KEKs (in clear when none) to the session keys the device
derives: FNwkSIntKey / SNwkSIntKey / NwkSEncKey from NwkKey and AppSKey from AppKey over JoinNonce | JoinEUI | DevNonce with OptNeg,
NwkSKey / AppSKey from the single root key over AppNonce | NetID | DevNonce without. -/
theorem C16_join_success (E : BlockCipher) (hE : E.Lawful) (q : Req) (c : Conf) (nwkKey appKey : Bytes) (nonce : Int) (x : Ctx)
    (hctx : joinContext E q nwkKey nonce = .ok x) (hjn : x.joinNonce < 16777216) (hg : GoodRequest q c) :
    ∃ body, joinFlow E q c nwkKey appKey nonce = .ok body ∧
      Spec.JS.deviceReceive E nwkKey q.devEUI x.joinEUI x.devNonce x.joinType false body.phy =
        some (Spec.JS.joinAcceptBytes x.joinNonce x.netID q.devAddr q.optNeg q.rx2dr.toNat q.rx1off.toNat q.rxDelay.toNat q.cfList, true) ∧
      (q.optNeg = true →
        opens E c.nsKEK body.fNwkSIntKey (Spec.JS.skey11 E 0x01 nwkKey x.joinNonce x.joinEUI x.devNonce) ∧
        opens E c.nsKEK body.sNwkSIntKey (Spec.JS.skey11 E 0x03 nwkKey x.joinNonce x.joinEUI x.devNonce) ∧
        opens E c.nsKEK body.nwkSEncKey (Spec.JS.skey11 E 0x04 nwkKey x.joinNonce x.joinEUI x.devNonce) ∧
        opens E c.asKEK body.appSKey (Spec.JS.skey11 E 0x02 appKey x.joinNonce x.joinEUI x.devNonce) ∧ body.nwkSKey = none) ∧
      (q.optNeg = false →
        opens E c.nsKEK body.nwkSKey (Spec.JS.skey10 E 0x01 nwkKey x.joinNonce x.netID x.devNonce) ∧
        opens E c.asKEK body.appSKey (Spec.JS.skey10 E 0x02 nwkKey x.joinNonce x.netID x.devNonce) ∧
        body.fNwkSIntKey = none ∧ body.sNwkSIntKey = none ∧ body.nwkSEncKey = none) := by
  obtain ⟨frame, hb, hdev⟩ := build_device E hE q x.netID x.joinNonce x.joinType x.joinEUI x.devNonce nwkKey false hg.cf hjn hg.rxDelay hg.rx2dr hg.rx1off
  obtain ⟨body, hbody, hphy, ha, h11, h10⟩ := joinBody_ok E hE q c (sessionKeys E q.optNeg nwkKey appKey x.netID x.joinEUI x.joinNonce x.devNonce) frame
    hg.nsKEK hg.asKEK hg.asLabel (sessionKeys_len E hE)
  refine ⟨body, ?_, by rw [hphy]; exact hdev, ?_, ?_⟩
  · unfold joinFlow
    rw [hctx]
    exact (congrArg (· >>= _) hb).trans hbody
  · intro ho
    obtain ⟨hf, hs, hn, hk⟩ := h11 ho
    rw [ho] at ha hf hs hn
    exact ⟨hf, hs, hn, ha, hk⟩
  · intro ho
    obtain ⟨hk, hnone⟩ := h10 ho
    rw [ho] at ha hk
    exact ⟨hk, ha, hnone⟩

/-- REJOIN-REQUEST, proved part (the session-key clause fails for rejoin: known finding c16-rejoin-session-keys) -/
theorem C16_rejoin_success_partial (E : BlockCipher) (hE : E.Lawful) (q : Req) (c : Conf) (nwkKey appKey : Bytes) (nonce : Int) (x : Ctx)
    (hctx : rejoinContext q nonce = .ok x) (hjn : x.joinNonce < 16777216) (hg : GoodRequest q c) (ho : q.optNeg = true) :
    ∃ body, rejoinFlow E q c nwkKey appKey nonce = .ok body ∧
      Spec.JS.deviceReceive E nwkKey q.devEUI x.joinEUI x.devNonce x.joinType true body.phy =
        some (Spec.JS.joinAcceptBytes x.joinNonce x.netID q.devAddr true q.rx2dr.toNat q.rx1off.toNat q.rxDelay.toNat q.cfList, true) ∧
      opens E c.nsKEK body.fNwkSIntKey (Spec.JS.skey10 E 0x01 nwkKey x.joinNonce x.netID x.devNonce) ∧
      opens E c.asKEK body.appSKey (Spec.JS.skey10 E 0x02 nwkKey x.joinNonce x.netID x.devNonce) := by
  obtain ⟨frame, hb, hdev⟩ := build_device E hE q x.netID x.joinNonce x.joinType x.joinEUI x.devNonce nwkKey true hg.cf hjn hg.rxDelay hg.rx2dr hg.rx1off
  rw [ho] at hb hdev
  obtain ⟨body, hbody, hphy, ha, h11, -⟩ := joinBody_ok E hE q c (sessionKeys E false nwkKey appKey x.netID x.joinEUI x.joinNonce x.devNonce) frame
    hg.nsKEK hg.asKEK hg.asLabel (sessionKeys_len E hE)
  refine ⟨body, ?_, by rw [hphy]; exact hdev, (h11 ho).1, ha⟩
  unfold rejoinFlow
  rw [hctx]
  exact (congrArg (· >>= _) hb).trans ((rejoinBody_eq E q c _ frame ho).trans hbody)

/-- the witness family for the known finding: the NetID-based key the rejoin answer carries is not the JoinEUI-based key the 1.1 device
derives, for every lawful cipher, whenever the two derivation inputs differ -/
theorem C16_rejoin_keys_differ (E : BlockCipher) (hE : E.Lawful) (typ : Byte) (root : Bytes) (jn : Nat) (netID : BitVec 24) (joinEUI : BitVec 64) (dn : BitVec 16)
    (hne : leBytes 3 netID.toNat ++ leBytes 2 dn.toNat ++ List.replicate 7 0 ≠ leBytes 8 joinEUI.toNat ++ leBytes 2 dn.toNat ++ List.replicate 2 0) :
    Spec.JS.skey10 E typ root jn netID dn ≠ Spec.JS.skey11 E typ root jn joinEUI dn := by
  intro h
  -- a lawful cipher is injective on blocks: decrypt both keys
  have := congrArg (E.dec root) h
  rw [Spec.JS.skey10, Spec.JS.skey11, hE.dec_enc _ _ (by simp), hE.dec_enc _ _ (by simp)] at this
  simp only [List.cons.injEq, true_and, List.append_assoc] at this
  have h3 := List.append_cancel_left this
  exact hne (by simpa [List.append_assoc] using h3)

/-- the code's derivations are the specification's (both versions), and JSIntKey / JSEncKey -/
theorem C16_key_derivations (E : BlockCipher) (nwkKey appKey : Bytes) (netID : BitVec 24) (joinEUI devEUI : BitVec 64) (jn : Nat) (dn : BitVec 16) :
    (sessionKeys E true nwkKey appKey netID joinEUI jn dn).fNwkSIntKey = Spec.JS.skey11 E 0x01 nwkKey jn joinEUI dn ∧
    (sessionKeys E true nwkKey appKey netID joinEUI jn dn).appSKey = Spec.JS.skey11 E 0x02 appKey jn joinEUI dn ∧
    (sessionKeys E false nwkKey appKey netID joinEUI jn dn).fNwkSIntKey = Spec.JS.skey10 E 0x01 nwkKey jn netID dn ∧
    (sessionKeys E false nwkKey appKey netID joinEUI jn dn).appSKey = Spec.JS.skey10 E 0x02 nwkKey jn netID dn ∧
    getJSKey E 0x06 devEUI nwkKey = Spec.JS.jsIntKey E nwkKey devEUI ∧ getJSKey E 0x05 devEUI nwkKey = Spec.JS.jsEncKey E nwkKey devEUI :=
  ⟨rfl, rfl, rfl, rfl, rfl, rfl⟩

/-! non-vacuity of `GoodRequest`: a CFList of type 0 is reproduced exactly by the codec -/
example : cfListOK [0x28, 0x76, 0x84, 0xf8, 0x7d, 0x84, 0, 0, 0, 0, 0, 0, 0, 0, 0, 0] := by
  refine Or.inr ⟨{ payload := .channels [868100000, 868300000, 0, 0, 0], typ := 0 }, ?_, ?_, rfl⟩ <;> decide
example : cfListOK [] := Or.inl rfl

end LW.C16
