/-
  C12 — band RX1 / RX2 / ping-slot parameters are consistent and follow the regional rules.
  The data of all 56 configurations (14 names × repeater × dwell-time) is REGENERATED from /repo on every run
  (LW/Generated/BandData.lean); the rules are LW/Spec/Regional.lean. The table-shaped clauses are evaluated by the Lean
  kernel over the whole finite domain the property names (every channel, DR -2..16 × offset -2..9); the clauses over
  integers / DevAddr / beacon time are proved for all values.
-/
import LW.Proofs.Band
import LW.Generated.BandData
namespace LW.C12
open LW.Spec Outcome

/-- for every uplink channel of every configuration: the RX1 channel index follows the region's rule (same channel /
index mod 8 / mod 48), exists as a downlink channel, and the frequency route yields that channel's frequency, which is the
region's downlink plan frequency (or the uplink frequency where RX1 uses the same channel) -/
theorem C12_rx1_channel : ∀ c ∈ Generated.allConfigs, rx1ChanViolations c = [] := by decide +kernel

/-- every accepted (uplink DR, offset) pair — DR -2..16 × offset -2..9 — maps to a defined downlink data-rate, equals the
region's formula wherever the region defines the pair, no pair the region defines is rejected, and nothing panics -/
theorem C12_rx1_datarate : ∀ c ∈ Generated.allConfigs, rx1DRViolations c = [] := by decide +kernel

/-- over the region's positive offsets the RX1 data-rate never increases and moves down by at most one defined downlink
data-rate per offset unit -/
theorem C12_rx1_monotone : ∀ c ∈ Generated.allConfigs, rx1MonoViolations c = [] := by decide +kernel

/-- ping-slot data: the fixed frequency of the region, or the 8 hopping channels of its downlink plan -/
theorem C12_pingslot_data : ∀ c ∈ Generated.allConfigs, pingViolations c = [] := by decide +kernel

/-- invalid data-rates or offsets — ANY integers, negative ones included — yield a value or an error, never a panic;
for every configuration value whatsoever (not only the generated ones) -/
theorem C12_total (c : BandCfg) (dr off : Int) : c.getRX1DR dr off ≠ panic := by
  unfold BandCfg.getRX1DR
  split
  · exact BandProofs.as923RX1DR_ne_panic _ _ _
  · exact BandProofs.getRX1DRGeneric_ne_panic _ _ _

/-- hopping rule for every DevAddr and every non-negative beacon time: channel (DevAddr + ⌊t / 128 s⌋) mod 8 -/
theorem C12_pingslot_hopping (a : BitVec 32) (t : Int) (ht : 0 ≤ t) :
    Int.tmod ((a.toNat : Int) + beaconPeriod t) 8 = pingSlotChannel a.toNat t := by
  have : 0 ≤ t / 128000000000 := Int.ediv_nonneg ht (by decide)
  rw [beaconPeriod, pingSlotChannel, Int.tdiv_eq_ediv_of_nonneg ht, Int.tmod_eq_emod_of_nonneg (by omega)]

/-- … so the ping-slot accessor of a hopping band returns the frequency of that downlink channel -/
theorem C12_pingslot_us (b : BandState) (a : BitVec 32) (t : Int) (ht : 0 ≤ t) (hf : b.cfg.family = .us915 ∨ b.cfg.family = .au915) :
    b.pingSlot a t = (do let c ← idxInt b.down (pingSlotChannel a.toNat t); ok c.freq) := by
  rcases hf with hf | hf <;> simp only [BandState.pingSlot, hf, C12_pingslot_hopping a t ht]

/-- the bands whose RX1 channel is the uplink index modulo 8 / 48 have at least that many downlink channels in the regenerated tables -/
theorem C12_rx1_downlinks : ∀ c ∈ Generated.allConfigs,
    ((c.family = .us915 ∨ c.family = .au915) → 8 ≤ c.down.length) ∧ (c.family = .cn470 → 48 ≤ c.down.length) := by
  decide +kernel

/-- the hopping bands of the regenerated tables have at least the eight downlink channels the hopping rule indexes -/
theorem C12_hopping_downlinks : ∀ c ∈ Generated.allConfigs, (c.family = .us915 ∨ c.family = .au915) → 8 ≤ c.down.length :=
  fun c hc => (C12_rx1_downlinks c hc).1

/-- the ping-slot accessor never panics: for every regenerated configuration, after ANY history of AddChannel / Disable / Enable,
every DevAddr and every non-negative beacon time, `GetPingSlotFrequency` yields a value (the index (DevAddr + ⌊t / 128 s⌋) mod 8 is
inside the downlink list of a hopping band and inside CN470's eight ping-slot frequencies). A negative beacon time is outside the
property (time since the GPS epoch). -/
theorem C12_pingslot_total (c : BandCfg) (hc : c ∈ Generated.allConfigs) (ops : List BandProofs.BandOp) (a : BitVec 32) (t : Int) (ht : 0 ≤ t) :
    (BandProofs.run c.init ops).pingSlot a t ≠ panic := by
  refine BandProofs.pingSlot_ne_panic _ a t ht fun hf => ?_
  rw [BandProofs.run_cfg] at hf
  exact Nat.le_trans (C12_hopping_downlinks c hc hf) (BandProofs.run_down_len c.init ops)

/-- the RX1-frequency accessor never panics: for every regenerated configuration, after ANY history of AddChannel / Disable / Enable and for
every uplink frequency, `GetRX1FrequencyForUplinkFrequency` yields a value or an error — the index (uplink channel mod 8 / mod 48) it uses
into the downlink list is always inside it -/
theorem C12_rx1freq_total (c : BandCfg) (hc : c ∈ Generated.allConfigs) (ops : List BandProofs.BandOp) (f : Nat) :
    (BandProofs.run c.init ops).rx1Frequency f ≠ panic := by
  have hlen := BandProofs.run_down_len c.init ops
  refine BandProofs.rx1Frequency_ne_panic _ f (fun hf => ?_) (fun hf => ?_) <;> rw [BandProofs.run_cfg] at hf
  · exact Nat.le_trans ((C12_rx1_downlinks c hc).1 hf) hlen
  · exact Nat.le_trans ((C12_rx1_downlinks c hc).2 hf) hlen

/-- … and the RX1 channel-index accessor answers for every integer -/
theorem C12_rx1chan_total (b : BandState) (i : Int) : b.rx1ChannelIndex i ≠ panic := by
  unfold BandState.rx1ChannelIndex
  split <;> nofun

example : Generated.allConfigs.length = 56 := by decide
example : (Generated.allConfigs.map fun c => c.up.length).sum > 900 := by decide +kernel

end LW.C12
