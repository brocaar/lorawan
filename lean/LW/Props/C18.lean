/-
  C18 — application-layer package commands round-trip; multicast keys follow TS005.
  Model: LW.Model.App (mirror of applayer/{clocksync,multicastsetup,fragmentation,firmwaremanagement});
  "in-width" and "command of a package/direction": LW.Spec.App. All theorems are for every value (no bound).
-/
import LW.Proofs.App
import LW.Generated.AppRegistry
namespace LW.C18
open Outcome LW.App LW.Spec.App

def lookupGenerated (p : Pkg) (up : Bool) (cid : Nat) : Option AKind :=
  (Generated.appRegistry.find? (fun e => e.1 == p && e.2.1 == up && e.2.2.1 == cid)).map (·.2.2.2)

/-- CIDs 0..8 by evaluation; above 8 both registries are undefined -/
theorem registry_eq_generated (p : Pkg) (up : Bool) (cid : Nat) : registry p up cid = lookupGenerated p up cid := by
  by_cases h : cid < 9
  · revert cid
    cases p <;> cases up <;> decide
  · obtain ⟨n, rfl⟩ := Nat.exists_eq_add_of_le' (Nat.le_of_not_lt h)
    rw [registry_high]
    cases p <;> cases up <;> rfl

/-- the registry the theorems quantify over is the one dumped from the current source (all 4 x 2 x 256 keys) -/
theorem C18_registry_regenerated :
    ∀ p ∈ Pkg.all, ∀ up ∈ [true, false], ∀ cid ∈ List.range 256, registry p up cid = lookupGenerated p up cid :=
  fun p _ up _ cid _ => registry_eq_generated p up cid

/-- size + round trip of a single payload: every in-width value encodes (no error) to exactly `Size()` bytes and decodes back
to itself, also when further bytes follow — except for the payloads that consume the rest of the buffer (DataFragment, by
specification) or insist on an exact length (three firmware-management requests), which must come last. -/
theorem C18_payload_roundtrip (v : AP) (h : inWidth v = true) (rest : Bytes) (ht : tailOK v rest) :
    ∃ b, v.enc = ok b ∧ b.length = v.size ∧ v.kind.dec (b ++ rest) = ok v :=
  dec_enc v h rest ht

/-- the same at `Command` level, for a command of package `p` in direction `up` (registry lookup included; a command the
package defines no payload for — PackageVersionReq, unknown CIDs — is the bare CID) -/
theorem C18_command_roundtrip (p : Pkg) (up : Bool) (c : ACmd) (h : cmdOK p up c = true) (rest : Bytes) (ht : cmdTailOK c rest) :
    ∃ b, c.enc = ok b ∧ b.length = c.size ∧ cmdDec p up (b ++ rest) = ok c :=
  cmd_rt p up c h rest ht

/-- sequence clause, proved part: any sequence of in-width commands of one package and direction, with DataFragment only last
(TS004 gives it no length) and with no exact-length firmware request before another command, encodes and decodes to itself.
The full clause (without `noExactBeforeLast`) is false of the code: see `C18_sequence_exact_length_counterexample`
(known finding c18-fw-exact-length-commands). -/
theorem C18_sequence_roundtrip_partial (p : Pkg) (up : Bool) (cs : List ACmd) (hok : seqOK p up cs = true)
    (hex : noExactBeforeLast cs = true) :
    ∃ b, cmdsEnc cs = ok b ∧ cmdsDec p up b = ok cs := by
  obtain ⟨b, he, hd⟩ := seq_rt p up cs hok hex
  exact ⟨b, he, hd b.length (Nat.le_refl _)⟩

/-- for the three packages other than firmware management the guard is vacuous: the sequence clause holds in full -/
theorem C18_sequence_roundtrip (p : Pkg) (hp : p ≠ .fw) (up : Bool) (cs : List ACmd) (hok : seqOK p up cs = true) :
    ∃ b, cmdsEnc cs = ok b ∧ cmdsDec p up b = ok cs := by
  apply C18_sequence_roundtrip_partial p up cs hok
  simp only [seqOK, Bool.and_eq_true, List.all_eq_true] at hok
  exact noExactBeforeLast_of_all cs (fun c hc => cmdOK_not_exact p hp up c (hok.1 c hc))

/-- the negation witness for firmware management: DevVersionReq followed by DevRebootTimeReq is a sequence of in-width
downlink commands that encodes to 01 02 05 00 00 00 and is rejected by the decoder -/
theorem C18_sequence_exact_length_counterexample :
    let cs : List ACmd := [⟨1#8, some .devVersionReq⟩, ⟨2#8, some (.devRebootTimeReq 5)⟩]
    seqOK .fw false cs = true ∧ cmdsEnc cs = ok [1, 2, 5, 0, 0, 0] ∧ cmdsDec .fw false [1, 2, 5, 0, 0, 0] = err := by
  decide

/-- encoding never panics — for ANY value, in width or not (DevUpgradeImageAns with status 3 and no version was a nil
dereference before the repair recorded as c18-upgrade-image-ans-nil) -/
theorem C18_encode_never_panics (v : AP) : v.enc ≠ panic := enc_ne_panic v
theorem C18_sequence_encode_never_panics (cs : List ACmd) : cmdsEnc cs ≠ panic := by
  induction cs with
  | nil => simp [cmdsEnc]
  | cons c r ih =>
    rw [cmdsEnc, bind_ne_panic]
    exact ⟨cmdEnc_ne_panic c, fun _ _ => bind_ne_panic.mpr ⟨ih, fun _ _ => by simp⟩⟩

/-- the stream decoder returns a value or an error on every input (its fuel is never exhausted) -/
theorem C18_sequence_decode_total (p : Pkg) (up : Bool) (data : Bytes) : cmdsDec p up data ≠ panic :=
  cmdsDecFuel_ne_panic p up data.length data (Nat.le_refl _)

/-- multicast keys: the code's derivations are the TS005 ones, for any block cipher, key and 4-byte address -/
theorem C18_keys (E : BlockCipher) (k a : Bytes) (ha : a.length = 4) :
    mcRootKeyForGenAppKey E k = Spec.App.mcRootKey10 E k ∧ mcRootKeyForAppKey E k = Spec.App.mcRootKey11 E k ∧
    App.mcKEKey E k = Spec.App.mcKEKey E k ∧ App.mcAppSKey E k a = Spec.App.mcAppSKey E k a ∧
    App.mcNetSKey E k a = Spec.App.mcNetSKey E k a := by
  match a, ha with
  | [a0, a1, a2, a3], _ => exact ⟨rfl, rfl, rfl, rfl, rfl⟩

/-! non-vacuity: the hypotheses are met by non-trivial values -/
example : inWidth (.mcClassBSessionReq 2 100 3 9 868100000 5) = true := by decide
example : cmdOK .mc false ⟨5#8, some (.mcClassBSessionReq 2 100 3 9 868100000 5)⟩ = true := by decide
example : seqOK .mc true [⟨1#8, some (.mcGroupStatusAns 3 ⟨true, false, true, false⟩ [(2, [1, 2, 3, 4]), (1, [10, 11, 12, 13])])⟩,
    ⟨4#8, some (.mcClassCSessionAns false false false 1 (some 16777215))⟩, ⟨0#8, some (.pkgVersionAns 2 1)⟩] = true := by decide
example : seqOK .fr false [⟨2#8, some (.fragSessionSetupReq 3 ⟨true, false, true, true⟩ 65535 255 7 7 255 [1, 2, 3, 4])⟩,
    ⟨8#8, some (.dataFragment 3 16383 [1, 2, 3])⟩] = true := by decide

end LW.C18
