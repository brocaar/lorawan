/-
  C03 — FRMPayload and FOpts encryption equal the specification keystream and are involutions; each operation either
  applies the transform or returns an error. For every lawful block cipher (16-byte blocks), every key, direction,
  DevAddr, 32-bit FCnt and payload length (no bound; the 1-byte block counter wraps modulo 256 in model and spec alike).
-/
import LW.Proofs.CryptoSpec
namespace LW.C03
open Outcome

/-- `EncryptFRMPayload` XORs the payload with S_1 | S_2 | … , S_i = E(K, A_i), i = 1..⌈len/16⌉ -/
theorem C03_frm_spec (E : BlockCipher) (hE : E.Lawful) (key : Bytes) (up : Bool) (addr fcnt : BitVec 32) (data : Bytes) :
    encryptFRMPayload E key up addr fcnt data = Spec.cryptFRM E key up addr fcnt data :=
  CryptoSpec.frm_spec E hE key up addr fcnt data

theorem C03_frm_len (E : BlockCipher) (hE : E.Lawful) (key : Bytes) (up : Bool) (addr fcnt : BitVec 32) (data : Bytes) :
    (encryptFRMPayload E key up addr fcnt data).length = data.length := by
  rw [C03_frm_spec E hE]; exact CryptoSpec.cryptFRM_length E hE key up addr fcnt data

theorem C03_frm_involution (E : BlockCipher) (hE : E.Lawful) (key : Bytes) (up : Bool) (addr fcnt : BitVec 32) (data : Bytes) :
    encryptFRMPayload E key up addr fcnt (encryptFRMPayload E key up addr fcnt data) = data := by
  rw [C03_frm_spec E hE, C03_frm_spec E hE]; exact CryptoSpec.cryptFRM_invol E hE key up addr fcnt data

/-- `EncryptFOpts`: at most 15 bytes, XOR with the single block E(K, A) in the erratum form (A[4] ∈ {1,2}, A[15] = 1); longer input is an error -/
theorem C03_fopts_spec (E : BlockCipher) (key : Bytes) (af up : Bool) (addr fcnt : BitVec 32) (data : Bytes) :
    encryptFOpts E key af up addr fcnt data =
      if data.length > 15 then err else ok (Spec.cryptFOpts E key af up addr fcnt data) :=
  CryptoSpec.fopts_spec E key af up addr fcnt data

theorem C03_fopts_limit (E : BlockCipher) (key : Bytes) (af up : Bool) (addr fcnt : BitVec 32) (data : Bytes) (h : data.length > 15) :
    encryptFOpts E key af up addr fcnt data = err := by
  rw [C03_fopts_spec]; simp [h]

theorem C03_fopts_involution (E : BlockCipher) (hE : E.Lawful) (key : Bytes) (af up : Bool) (addr fcnt : BitVec 32) (data ct : Bytes)
    (h : encryptFOpts E key af up addr fcnt data = ok ct) :
    ct.length = data.length ∧ encryptFOpts E key af up addr fcnt ct = ok data := by
  simp only [C03_fopts_spec, ite_err_eq_ok, ok.injEq] at h ⊢
  obtain ⟨hl, rfl⟩ := h
  have hlen := CryptoSpec.cryptFOpts_length E hE key af up addr fcnt data (by omega)
  exact ⟨hlen, by omega, CryptoSpec.cryptFOpts_invol E hE key af up addr fcnt data (by omega)⟩

/-- `PHYPayload.EncryptFOpts` uses the AFCntDown variant exactly for downlinks with FPort > 0, and never reports success
while leaving non-empty FOpts untransformed: on success the FOpts are the single block of transformed bytes. -/
theorem C03_phy_fopts (E : BlockCipher) (key : Bytes) (p p' : PHY) (h : FHDR) (fPort : Option Byte) (frm : List Item)
    (hp : p.payload = some (.mac h fPort frm)) (hne : h.fOpts.length ≠ 0) (hr : p.encryptFOpts E key = ok p') :
    ∃ macB, encItems h.fOpts = ok macB ∧ macB.length ≤ 15 ∧
      p' = { p with payload := some (.mac { h with fOpts := [.data (Spec.cryptFOpts E key
              (Spec.useAFCntDown p.isUplink fPort) p.isUplink h.devAddr h.fCnt macB)] } fPort frm) } := by
  rw [CryptoSpec.phy_encryptFOpts E key p h fPort frm hp, if_neg (by simpa using hne)] at hr
  simp only [bind_eq_ok, ite_err_eq_ok, ok.injEq] at hr
  obtain ⟨macB, hm, hl, rfl⟩ := hr
  exact ⟨macB, hm, by omega, rfl⟩

/-- `DecryptFOpts` = `EncryptFOpts` followed by decoding; an error of the first step is returned, never swallowed
(this was false before the repair recorded as c03-decryptfopts-swallows-error) -/
theorem C03_decrypt_never_silent (E : BlockCipher) (reg : Registry) (key : Bytes) (p : PHY) (h : p.encryptFOpts E key = err) :
    p.decryptFOpts E reg key = err := by
  simp [PHY.decryptFOpts, h]

/-- `PHYPayload.EncryptFRMPayload`: on success a non-empty FRMPayload has been replaced by its transformed bytes -/
theorem C03_phy_frm (E : BlockCipher) (hE : E.Lawful) (key : Bytes) (p p' : PHY) (h : FHDR) (fPort : Option Byte) (frm : List Item)
    (hp : p.payload = some (.mac h fPort frm)) (hne : frm.length ≠ 0) (hr : p.encryptFRM E key = ok p') :
    ∃ data, frmEnc fPort frm = ok data ∧
      p' = { p with payload := some (.mac h fPort [.data (Spec.cryptFRM E key p.isUplink h.devAddr h.fCnt data)]) } := by
  rw [CryptoSpec.phy_encryptFRM E hE key p h fPort frm hp, if_neg (by simpa using hne)] at hr
  simp only [bind_eq_ok, ok.injEq] at hr
  obtain ⟨data, hd, rfl⟩ := hr
  exact ⟨data, hd, rfl⟩

end LW.C03
