/-
  C09 — decoders are total: any bytes give a value or an error, never a panic.
  Two layers: (1) LW.Model.Checked transcribes the Go index expressions (`data[i]`, `data[lo:hi]`, cursor and offset arithmetic)
  with primitives that panic exactly when Go's bounds checks would; the theorems below show that no input reaches a panic and,
  for the frame decoders (PHYPayload, MACPayload, FHDR, join-accept, CFList), that the transcription equals the total decoder of
  LW.Model.Frame, which the correspondence runs compare with the Go code on every op (the driver cross-checks all transcriptions
  against the total decoders on every op); for the stream loop and the application-layer offsets only `≠ panic` is proved;
  (2) the harness observes the real decoders: PANIC, HANG (10 s watchdog) and writes to the input buffer or the 16 canary
  bytes of spare capacity behind it are violations.
  Not expressible in the model (observed only): running time, writes to the input buffer, json.Unmarshal of the payload structs.
-/
import LW.Proofs.Checked
import LW.Proofs.App
import LW.Generated.Registry
namespace LW.C09
open Outcome LW.Checked

/-- frame decoder: the Go index expressions never leave the buffer, and the transcription is the total decoder -/
theorem C09_phy_total (data : Bytes) : phyDec data ≠ panic ∧ phyDec data = PHY.dec data :=
  ⟨by rw [phyDec_eq]; exact phy_ne_panic data, phyDec_eq data⟩

/-- MACPayload: `data[4:5]`, `data[0:7+FOptsLen]`, `data[7+FOptsLen]`, `data[7+FOptsLen+1:]` -/
theorem C09_macpayload_total (data : Bytes) : Checked.macDec data ≠ panic ∧ Checked.macDec data = LW.macDec {} none [] data :=
  ⟨by rw [macDec_eq]; exact macDec_ne_panic _ _ _ data, macDec_eq data⟩

/-- FHDR: `data[0:4]`, `data[4:5]`, `data[5:7]`, `data[7:]` -/
theorem C09_fhdr_total (data : Bytes) : fhdrDec data ≠ panic ∧ fhdrDec data = FHDR.dec {} data :=
  ⟨by rw [fhdrDec_eq]; exact fhdr_ne_panic _ data, fhdrDec_eq data⟩

/-- CFList and join-accept payload (the bytes a device decrypts): `data[15]`, `data[:15]`, `data[i*3+k]`, `data[i*2 : i*2+2]`,
`data[0:3]`, `data[3:6]`, `data[6:10]`, `data[10:11]`, `data[11]`, `data[12:]` -/
theorem C09_joinaccept_total (data : Bytes) :
    joinAcceptDec data ≠ panic ∧ joinAcceptDec data = JoinAccept.dec {} data ∧ cfListDec data ≠ panic ∧ cfListDec data = CFList.dec data :=
  ⟨by rw [joinAcceptDec_eq]; exact joinAccept_ne_panic {} data, joinAcceptDec_eq data,
   by rw [cfListDec_eq]; exact cfList_ne_panic data, cfListDec_eq data⟩

/-- MAC-command stream loop (`Bytes[i]`, `Bytes[i:i+1+plLen]`, `i += plLen`) for every registry with non-negative sizes
(what RegisterProprietaryMACCommand guarantees since the repair c07-register-negative-size) -/
theorem C09_stream_total (reg : Registry) (hreg : RegNonneg reg) (up : Bool) (data : Bytes) : Checked.stream reg up data ≠ panic :=
  streamLoop_ne_panic reg hreg up data _ _ _

theorem C09_generated_registry_nonneg : RegNonneg Generated.registry := by
  have all : ∀ e ∈ Generated.registry, 0 ≤ e.size := by decide
  intro up cid e h
  exact all e (List.mem_of_find?_eq_some h)

/-- application layer: offsets derived from mask bits / status bits (`1 + i*5`, `data[offset+1:offset+5]`, `data[1:4]`, `data[1:5]`, `data[2:]`) -/
theorem C09_app_offsets_total (data : Bytes) (mk : Bool → Bool → Bool → Byte → Option Nat → App.AP) :
    statusAnsDec data ≠ panic ∧ sessionAnsDec mk data ≠ panic ∧ upgradeAnsDec data ≠ panic ∧ dataFragmentDec data ≠ panic :=
  ⟨statusAnsDec_ne_panic data, sessionAnsDec_ne_panic mk data, upgradeAnsDec_ne_panic data, dataFragmentDec_ne_panic data⟩

/-- application layer: the four command-stream decoders return a value or an error on every input, both directions
(the cursor advances by Size() ≥ 1: the fuel of the model is never exhausted) -/
theorem C09_app_streams_total (p : App.Pkg) (up : Bool) (data : Bytes) : App.cmdsDec p up data ≠ panic :=
  App.cmdsDecFuel_ne_panic p up data.length data (Nat.le_refl _)

theorem C09_app_payloads_total (k : App.AKind) (data : Bytes) : k.dec data ≠ panic := App.dec_ne_panic k data

end LW.C09
