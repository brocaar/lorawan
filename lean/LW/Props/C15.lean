/-
  C15 — channel-plan state machine, CFList and MAC-layer encodability of band outputs.
  State machine: `BandProofs.step` over {AddChannel(f,minDR,maxDR), Disable(i), Enable(i)} with ARBITRARY integer arguments;
  every theorem below is for all states / all histories of any length (the "~30" of the quantifier is only the harness bound).
-/
import LW.Proofs.Band
import LW.Proofs.JoinAcceptRT
import LW.Generated.BandData
import LW.Proofs.BandMasks
import LW.Proofs.MacRT
namespace LW.C15
open Outcome BandProofs

theorem C15_inv_init (c : BandCfg) : Inv c c.init := ⟨rfl, [], by simp [BandCfg.init], by simp⟩

theorem C15_inv_step (c : BandCfg) (b : BandState) (op : BandOp) (h : Inv c b) : Inv c (step b op) := by
  obtain ⟨hc, extra, hs, he⟩ := h
  rcases step_cases b op with e | ⟨-, ch, hch, e⟩ | ⟨n, v, e⟩ <;> rw [e]
  · exact ⟨hc, extra, hs, he⟩
  · exact ⟨hc, extra ++ [ch], by simp [hs], by simpa [or_imp, forall_and, hch] using he⟩
  · exact ⟨hc, extra, (setEnabled_static _ _ _).trans hs, he⟩

/-- After any history the channel list is the configuration's standard channels — frequency, data-rate range and custom flag
untouched, in order — followed by custom channels. (Standard channels are never altered; only their enabled flag can change.) -/
theorem C15_inv_reachable (c : BandCfg) (ops : List BandOp) : Inv c (run c.init ops) :=
  run_ind (Inv c) ops (C15_inv_init c) (C15_inv_step c)

/-- enabled and disabled partition all channels; standard and custom partition all channels — in every state -/
theorem C15_partition_enabled (b : BandState) (i : Int) :
    (i ∈ b.allIdx ↔ (i ∈ b.enabledIdx ∨ i ∈ b.disabledIdx)) ∧ ¬ (i ∈ b.enabledIdx ∧ i ∈ b.disabledIdx) :=
  partition b.up (·.enabled) i
theorem C15_partition_custom (b : BandState) (i : Int) :
    (i ∈ b.allIdx ↔ (i ∈ b.stdIdx ∨ i ∈ b.customIdx)) ∧ ¬ (i ∈ b.stdIdx ∧ i ∈ b.customIdx) :=
  (partition b.up (·.custom) i).imp (·.trans or_comm) (mt And.symm)

/-- lookup by frequency returns an index whose channel has that frequency and the requested default/custom kind -/
theorem C15_lookup_freq (b : BandState) (f : Nat) (d : Bool) (i : Int) (h : b.getUplinkChannelIndex f d = ok i) :
    ∃ n : Nat, i = n ∧ ∃ ch, b.up[n]? = some ch ∧ ch.freq = f ∧ ch.custom = !d := lookup_freq_sound b f d i h

/-- lookup by frequency + data-rate returns an index whose channel has that frequency and a range containing the data-rate -/
theorem C15_lookup_freq_dr (b : BandState) (f : Nat) (dr : Int) (i : Int) (h : b.getUplinkChannelIndexForFrequencyDR f dr = ok i) :
    ∃ ch, 0 ≤ i ∧ b.up[i.toNat]? = some ch ∧ ch.freq = f ∧ ch.minDR ≤ dr ∧ dr ≤ ch.maxDR := by
  obtain ⟨dflt, c, h1, h2, hr⟩ := lookup_freq_dr_eq_ok h
  obtain ⟨h0, hl⟩ := guarded_idxInt_eq_ok.mp h2
  obtain ⟨n, rfl, ch, hl2, hf, -⟩ := lookup_freq_sound b f dflt i h1
  cases hl2.symm.trans hl
  exact ⟨_, h0, hl, hf, hr⟩

/-- out-of-range or negative indices (any integer) are reported as errors, never as panics -/
theorem C15_nopanic (b : BandState) (i : Int) (v : Bool) (f : Nat) (mn mx : Int) (d : Bool) :
    b.getUplinkChannel i ≠ panic ∧ b.getDownlinkChannel i ≠ panic ∧ b.setUplinkEnabled i v ≠ panic ∧
    b.addChannel f mn mx ≠ panic ∧ b.cfg.getTXPowerOffset i ≠ panic ∧ b.getUplinkChannelIndex f d ≠ panic :=
  ⟨guarded_idxInt_ne_panic b.up i, guarded_idxInt_ne_panic b.down i, ite_ne_panic.mpr ⟨fun _ => nofun, fun _ => nofun⟩,
   ite_ne_panic.mpr ⟨fun _ => nofun, fun _ => nofun⟩, guarded_idxInt_ne_panic b.cfg.txPower i, getUplinkChannelIndex_ne_panic b f d⟩

/-- the channel-list CFList contains only custom channels' frequencies (zero padded), exactly five entries, type 0 -/
theorem C15_cflist_channels (b : BandState) (l : CFList) (h : b.cfListChannels = some l) :
    ∃ fs, l.payload = .channels fs ∧ fs.length = 5 ∧ l.typ = 0 ∧
      ∀ f ∈ fs, f = 0 ∨ ∃ ch ∈ b.up, ch.custom = true ∧ f = BitVec.ofNat 32 ch.freq := by
  simp only [BandState.cfListChannels] at h
  split at h
  · contradiction
  · cases h
    refine ⟨_, rfl, ?_, rfl, ?_⟩
    · simp only [List.length_append, List.length_map, List.length_take, List.length_replicate]
      omega
    · intro f hf
      rcases List.mem_append.mp hf with h1 | h1
      · right
        obtain ⟨ch, hch, rfl⟩ := List.mem_map.mp h1
        have h3 := List.mem_filter.mp (List.mem_of_mem_take hch)
        simp only [Bool.and_eq_true] at h3
        exact ⟨ch, h3.1, h3.2.1.1, rfl⟩
      · left; exact (List.mem_replicate.mp h1).2

/-- the channel-mask CFList (US915, AU915, CN470 style bands) is exactly the enabled channels: type 1, and bit i of mask j is set
iff uplink channel 16·j + i is enabled, for every channel of the plan after any history -/
theorem C15_cflist_masks (b : BandState) (l : CFList) (h : b.cfListMasks = some l) :
    l.typ = 1 ∧ ∃ ms, l.payload = .masks ms ∧
      ∀ j i, i < 16 → 16 * j + i < b.up.length →
        ∃ m, ms[j]? = some m ∧ m.getLsbD i = (b.up.getD (16 * j + i) default).enabled := by
  simp only [BandState.cfListMasks, Option.some.injEq] at h
  subst h
  refine ⟨rfl, _, rfl, ?_⟩
  intro j i hi hlt
  have hc := BandMasks.chunks16_get (b.up.length + 1) b.up j (by omega) (by omega)
  have hne : ((chunks16 (b.up.length + 1) b.up).map maskOf).isEmpty = false := by
    cases hcs : chunks16 (b.up.length + 1) b.up with
    | nil => rw [hcs] at hc; simp at hc
    | cons _ _ => rfl
  simp only [hne, Bool.false_eq_true, if_false]
  exact ⟨_, by rw [List.getElem?_map, hc]; rfl, BandMasks.maskOf_chunk_bit b.up j i hi hlt⟩

/-- MAC-layer encodability: a channel-list CFList whose frequencies are multiples of 100 Hz below 2^24·100 Hz is accepted by
the join-accept encoder. (ISM2400 frequencies violate the hypothesis: known finding c15-ism2400-frequencies-not-encodable.) -/
theorem C15_cflist_encodable_partial (fs : List (BitVec 32)) (h : fs.all (fun f => (Spec.freqCode f).isSome) = true) :
    ∃ bs, ({ payload := .channels fs, typ := 0 } : CFList).enc = ok bs := by
  obtain ⟨b, hb⟩ := FrameRT.cfChannelsEnc_ok fs h
  exact ⟨_, by simp only [CFList.enc, CFListP.enc, hb, Outcome.ok_bind]; rfl⟩

/-- MAC-layer encodability of reported channels: every channel whose frequency lies on the grid the specification gives
NewChannelReq (multiples of 100 Hz below 2.4 GHz with code < 12 000 000, multiples of 200 Hz from 2.4 GHz upwards — the ISM2400
channels included) and whose data-rates fit their 4-bit fields is encoded by NewChannelReq, in exactly five bytes, and decodes back
to the same index, frequency and data-rate range. (Run-time counterpart: the `chanmac` op on every channel a band reports.) -/
theorem C15_newchannelreq_carries (ch : Byte) (f : BitVec 32) (mx mn : Byte)
    (hf : (Spec.freqCodeNC f).isSome = true) (hmx : mx.toNat < 16) (hmn : mn.toNat < 16) :
    ∃ bs, (MacP.newChannelReq ch f mx mn).enc = ok bs ∧ bs.length = 5 ∧
      Kind.dec0 .newChannelReq bs = ok (.newChannelReq ch f mx mn) := by
  obtain ⟨c, hc⟩ := Option.isSome_iff_exists.mp hf
  have he : (MacP.newChannelReq ch f mx mn).enc = ok (Spec.pack 5 (Spec.layout .newChannelReq).2 [ch.toNat, c, mx.toNat, mn.toNat]) :=
    MacSpec.enc_iff.mpr (by simp [Spec.enc, Spec.toFields, hc, Spec.lt, hmx, hmn, MacP.kind]; rfl)
  exact ⟨_, he, Pack.pack_length .., MacRT.lossless _ _ he⟩

/-- non-vacuity: an ISM2400 frequency that is an odd multiple of 200 Hz, and a sub-GHz one -/
example : (Spec.freqCodeNC 2403000200#32).isSome = true ∧ (Spec.freqCodeNC 868100000#32).isSome = true := by decide
example : (MacP.newChannelReq 3 2403000200#32 7 0).enc = ok [3, 0x99, 0x55, 0xb7, 0x70] := by decide

/-- witness of the known finding: a 2.4 GHz frequency is refused by the CFList encoder -/
theorem C15_ism2400_witness : ({ payload := .channels [2403200000#32, 0, 0, 0, 0], typ := 0 } : CFList).enc = err := by decide

example : (run (Generated.allConfigs.headD default).init [.add 867100000 0 5, .disable 1, .enable 7, .disable (-3)]).up.length = 4 := by decide

end LW.C15
