/-
  C02 — data-frame MIC equals the specification value; set/validate agree.
  Every theorem holds for EVERY block cipher `E` (AES is only the driver's instance), every frame, key, MAC version,
  32-bit counter, txDR/txCh and message length.
-/
import LW.Proofs.CryptoSpec
namespace LW.C02
open Outcome

/-- uplink: B0 form for 1.0, cmacS[0..1]|cmacF[0..1] over B1/B0 for 1.1, ConfFCnt (mod 2^16) only when ACK is set;
full 32-bit FCnt, DevAddr, direction and message length (mod 256, the specification's 1-byte field) bound in -/
theorem C02_up (E : BlockCipher) (ver : Byte) (conf : BitVec 32) (dr ch : Byte) (fk sk : Bytes) (p : PHY)
    (h : FHDR) (fPort : Option Byte) (frm : List Item) (b : Bytes)
    (hp : p.payload = some (.mac h fPort frm)) (hb : macEnc h fPort frm = ok b) :
    calcUplinkDataMIC E ver conf dr ch fk sk p =
      ok (Spec.micUp E (ver != 0) conf dr ch fk sk h.devAddr h.fCnt h.fCtrl.ack (mhdrEnc p.mtype p.major :: b)) := by
  rw [CryptoSpec.up_eq E ver conf dr ch fk sk p h fPort frm hp, hb]; rfl

/-- downlink: B0 with direction 1, ConfFCnt only in 1.1 and only when ACK is set -/
theorem C02_down (E : BlockCipher) (ver : Byte) (conf : BitVec 32) (key : Bytes) (p : PHY)
    (h : FHDR) (fPort : Option Byte) (frm : List Item) (b : Bytes)
    (hp : p.payload = some (.mac h fPort frm)) (hb : macEnc h fPort frm = ok b) :
    calcDownlinkDataMIC E ver conf key p =
      ok (Spec.micDown E (ver != 0) conf key h.devAddr h.fCnt h.fCtrl.ack (mhdrEnc p.mtype p.major :: b)) := by
  rw [CryptoSpec.down_eq E ver conf key p h fPort frm hp, hb]; rfl

/-- validation returns true exactly when the frame carries the specification's value (uplink) -/
theorem C02_validate_up_iff (E : BlockCipher) (ver : Byte) (conf : BitVec 32) (dr ch : Byte) (fk sk : Bytes) (p : PHY)
    (h : FHDR) (fPort : Option Byte) (frm : List Item) (b : Bytes)
    (hp : p.payload = some (.mac h fPort frm)) (hb : macEnc h fPort frm = ok b) :
    validateMIC p (calcUplinkDataMIC E ver conf dr ch fk sk p) =
      ok (p.mic == Spec.micUp E (ver != 0) conf dr ch fk sk h.devAddr h.fCnt h.fCtrl.ack (mhdrEnc p.mtype p.major :: b)) := by
  rw [C02_up E ver conf dr ch fk sk p h fPort frm b hp hb]; rfl

theorem C02_validate_down_iff (E : BlockCipher) (ver : Byte) (conf : BitVec 32) (key : Bytes) (p : PHY)
    (h : FHDR) (fPort : Option Byte) (frm : List Item) (b : Bytes)
    (hp : p.payload = some (.mac h fPort frm)) (hb : macEnc h fPort frm = ok b) :
    validateMIC p (calcDownlinkDataMIC E ver conf key p) =
      ok (p.mic == Spec.micDown E (ver != 0) conf key h.devAddr h.fCnt h.fCtrl.ack (mhdrEnc p.mtype p.major :: b)) := by
  rw [C02_down E ver conf key p h fPort frm b hp hb]; rfl

/-- set then validate (same parameters) is true: the MIC does not depend on the MIC field -/
theorem C02_set_validate_up (E : BlockCipher) (ver : Byte) (conf : BitVec 32) (dr ch : Byte) (fk sk : Bytes) (p p' : PHY)
    (hs : setMIC p (calcUplinkDataMIC E ver conf dr ch fk sk p) = ok p') :
    validateMIC p' (calcUplinkDataMIC E ver conf dr ch fk sk p') = ok true :=
  CryptoSpec.set_validate _ (fun _ _ => rfl) hs

theorem C02_set_validate_down (E : BlockCipher) (ver : Byte) (conf : BitVec 32) (key : Bytes) (p p' : PHY)
    (hs : setMIC p (calcDownlinkDataMIC E ver conf key p) = ok p') :
    validateMIC p' (calcDownlinkDataMIC E ver conf key p') = ok true :=
  CryptoSpec.set_validate _ (fun _ _ => rfl) hs

/-- `ValidateUplinkDataMICF` compares exactly the cmacF half (bytes 2..3 of the 1.1 MIC computed with FNwkSIntKey) -/
theorem C02_validateF (E : BlockCipher) (fk : Bytes) (p : PHY)
    (h : FHDR) (fPort : Option Byte) (frm : List Item) (b : Bytes)
    (hp : p.payload = some (.mac h fPort frm)) (hb : macEnc h fPort frm = ok b) :
    validateUplinkDataMICF E fk p =
      ok (p.mic.drop 2 == (Spec.micUp E true 0 0 0 fk fk h.devAddr h.fCnt h.fCtrl.ack (mhdrEnc p.mtype p.major :: b)).drop 2) := by
  simp only [validateUplinkDataMICF]
  rw [C02_up E 1 0 0 0 fk fk p h fPort frm b hp hb]; rfl

/-! inputs the specification excludes from the MIC do not affect it -/

/-- ConfFCnt is irrelevant when ACK is clear, and only its low 16 bits matter when ACK is set -/
theorem C02_indep_conf (E : BlockCipher) (v11 : Bool) (c c' : BitVec 32) (dr ch : Byte) (fk sk : Bytes) (a f : BitVec 32) (ack : Bool) (msg : Bytes)
    (h : ack = false ∨ c.toNat % 65536 = c'.toNat % 65536) :
    Spec.micUp E v11 c dr ch fk sk a f ack msg = Spec.micUp E v11 c' dr ch fk sk a f ack msg := by
  rcases h with h | h
  · subst h; simp [Spec.micUp]
  · simp [Spec.micUp, h]

/-- in 1.0, TxDr, TxCh, SNwkSIntKey and ConfFCnt are not part of the uplink MIC -/
theorem C02_indep_v10_up (E : BlockCipher) (c c' : BitVec 32) (dr dr' ch ch' : Byte) (fk sk sk' : Bytes) (a f : BitVec 32) (ack : Bool) (msg : Bytes) :
    Spec.micUp E false c dr ch fk sk a f ack msg = Spec.micUp E false c' dr' ch' fk sk' a f ack msg := by
  simp [Spec.micUp]

/-- in 1.0 (or with ACK clear) ConfFCnt is not part of the downlink MIC -/
theorem C02_indep_down (E : BlockCipher) (v11 : Bool) (c c' : BitVec 32) (key : Bytes) (a f : BitVec 32) (ack : Bool) (msg : Bytes)
    (h : v11 = false ∨ ack = false ∨ c.toNat % 65536 = c'.toNat % 65536) :
    Spec.micDown E v11 c key a f ack msg = Spec.micDown E v11 c' key a f ack msg := by
  rcases h with h | h | h
  · subst h; simp [Spec.micDown]
  · subst h; simp [Spec.micDown]
  · simp [Spec.micDown, h]

/-- What is authenticated: the CMAC input `B0 | msg` determines direction, DevAddr, the full 32-bit FCnt, ConfFCnt mod 2^16 and
the serialised frame — so a change to any of them changes what is MAC'ed. (That a different CMAC input gives a different
4-byte MIC is the cryptographic assumption; it is not provable.) -/
theorem C02_bound_inputs_B0 (c c' : Nat) (d d' : Byte) (a a' f f' : BitVec 32) (msg msg' : Bytes)
    (hc : c < 65536) (hc' : c' < 65536)
    (h : Spec.B0 c d a f msg.length ++ msg = Spec.B0 c' d' a' f' msg'.length ++ msg') :
    c = c' ∧ d = d' ∧ a = a' ∧ f = f' ∧ msg = msg' := by
  obtain ⟨h1, -, -, h2, h3⟩ := CryptoSpec.block_msg_inj hc hc' h
  exact ⟨h1, h2, h3⟩

theorem C02_bound_inputs_B1 (c c' : Nat) (x x' y y' : Byte) (a a' f f' : BitVec 32) (msg msg' : Bytes)
    (hc : c < 65536) (hc' : c' < 65536)
    (h : Spec.B1 c x y a f msg.length ++ msg = Spec.B1 c' x' y' a' f' msg'.length ++ msg') :
    c = c' ∧ x = x' ∧ y = y' ∧ a = a' ∧ f = f' ∧ msg = msg' := by
  obtain ⟨h1, h2, h3, -, h4⟩ := CryptoSpec.block_msg_inj hc hc' h
  exact ⟨h1, h2, h3, h4⟩

/-! non-vacuity -/
example : macEnc { devAddr := 0x01020304#32, fCnt := 0x10001#32 } (some 1) [.data [1, 2, 3]] = ok [4, 3, 2, 1, 0, 1, 0, 1, 1, 2, 3] := by decide

end LW.C02
