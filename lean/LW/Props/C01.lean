/-
  C01 — frame encode/decode round trip for every message type.
  `Spec.frameValid` is the explicit, decidable "spec-valid frame" predicate; `Spec.wire` is the stated notion of equality
  after the wire (FCnt mod 2^16, FOpts/FRMPayload as the bytes they carry, shared FPending/ClassB bit).
  A join-accept travels encrypted: `C01_roundtrip` covers the frame with its opaque payload, `C01_joinaccept_roundtrip` the
  payload itself (and C04 the encryption between the two).
-/
import LW.Proofs.Stream
import LW.Proofs.JoinAcceptRT
import LW.Proofs.Base64
namespace LW.C01
open Outcome

/-- Encoding then decoding yields the original frame (as seen over the wire), for every frame of the right shape that the
encoder accepts: all 8 MTypes, any flags, any FOpts ≤ 15 bytes, FPort absent/0/1..255, FRMPayload of any length. -/
theorem C01_roundtrip (f : PHY) (bs : Bytes) (henc : f.enc = ok bs) (hs : Spec.shapeOK f = true) :
    PHY.dec bs = ok (Spec.wire f) :=
  FrameRT.phy_dec_enc f bs henc hs

/-- A value the specification allows (explicit decidable predicate `Spec.frameValid`) is never refused by the encoder;
contrapositive: a value the encoder refuses is never one the specification allows. -/
theorem C01_encode_total (f : PHY) (hv : Spec.frameValid f = true) : ∃ bs, f.enc = ok bs := by
  obtain ⟨mt, mj, pl, mic⟩ := f
  simp only [Spec.frameValid, Bool.and_eq_true] at hv
  obtain ⟨hs, hp⟩ := hv
  cases pl with
  | none => simp [Spec.shapeOK] at hs
  | some pl =>
    suffices h : ∃ b, pl.enc = ok b by
      obtain ⟨b, hb⟩ := h
      simp only [PHY.enc, hb, ok_bind]
      exact ⟨_, rfl⟩
    cases pl with
    | joinReq j d n => exact ⟨_, rfl⟩
    | data b => exact ⟨_, rfl⟩
    | rejoin02 t n d c =>
      simp only [Bool.or_eq_true, beq_iff_eq] at hp
      have : ¬ (t != 0 ∧ t != 2) := by rcases hp with rfl | rfl <;> decide
      simp only [MacPL.enc, if_neg this]
      exact ⟨_, rfl⟩
    | rejoin1 t j d c =>
      cases beq_iff_eq.mp hp
      exact ⟨_, rfl⟩
    | joinAccept ja =>
      simp only [Bool.and_eq_true, decide_eq_true_eq] at hp
      obtain ⟨⟨⟨⟨h1, h2⟩, h3⟩, h4⟩, h5⟩ := hp
      rw [MacPL.enc, FrameRT.joinAccept_enc_eq ja (by omega) (by omega) (by omega) (by omega)]
      cases hcf : ja.cfList with
      | none => exact ⟨_, rfl⟩
      | some l =>
        rw [hcf] at h5
        obtain ⟨c, hc⟩ := FrameRT.cfList_enc_ok l h5
        simp only [hc, ok_bind]
        exact ⟨_, rfl⟩
    | mac h fPort frm =>
      simp only [Bool.and_eq_true, decide_eq_true_eq] at hp
      obtain ⟨⟨⟨ho, hf⟩, hport⟩, _⟩ := hp
      simp only [Spec.shapeOK, Bool.and_eq_true, decide_eq_true_eq] at hs
      have hlen := hs.2.2
      obtain ⟨ob, hob⟩ := FrameRT.encItems_ok h.fOpts ho
      rw [FrameRT.itemsBytes_of_ok hob] at hlen
      have hng : ¬ (byteOfNat ob.length).toNat > 15 := by simp only [byteOfNat, BitVec.toNat_ofNat]; omega
      obtain ⟨hb, hhb⟩ : ∃ hb, h.enc = ok hb := by
        simp only [FHDR.enc, hob, ok_bind, if_neg hng, FCtrl.enc]
        exact ⟨_, rfl⟩
      cases fPort with
      | none =>
        simp only [List.isEmpty_iff] at hport
        subst hport
        exact ⟨hb, by simp [MacPL.enc, macEnc, hhb]⟩
      | some p =>
        simp only [Bool.and_eq_true, Bool.or_eq_true, bne_iff_ne, ne_eq, List.isEmpty_iff, beq_iff_eq] at hport
        obtain ⟨hp1, hp2⟩ := hport
        have hg : ¬ (h.fOpts.length != 0 ∧ p == 0) := by
          rintro ⟨hx1, hx2⟩
          rcases hp1 with hp1 | hp1
          · exact hp1 (by simpa using hx2)
          · rw [hp1] at hx1; simp at hx1
        obtain ⟨pb, hpb⟩ := FrameRT.frmEnc_ok (some p) frm hf (hp2.imp_left fun hp2 => by rw [hp2])
        simp only [MacPL.enc, macEnc, hhb, ok_bind, if_neg hg, hpb]
        exact ⟨_, rfl⟩

/-- the two together: every spec-valid frame encodes, and decodes back to itself -/
theorem C01_valid_roundtrip (f : PHY) (hv : Spec.frameValid f = true) : ∃ bs, f.enc = ok bs ∧ PHY.dec bs = ok (Spec.wire f) := by
  obtain ⟨bs, h⟩ := C01_encode_total f hv
  have hs : Spec.shapeOK f = true := by
    simp only [Spec.frameValid, Bool.and_eq_true] at hv; exact hv.1
  exact ⟨bs, h, C01_roundtrip f bs h hs⟩

theorem C01_base64 (bs : Bytes) : Base64.decode (Base64.encode bs) = some bs := Base64.decode_encode bs

/-- the text form: `MarshalText` = base64 (StdEncoding) of `MarshalBinary`, `UnmarshalText` = `UnmarshalBinary` of the
decoded text (driver ops `phytextenc` / `phytextdec`).  For every spec-valid frame the text exists and decodes to the
original frame; the base64 layer is lossless for every byte string. -/
theorem C01_text_roundtrip (f : PHY) (hv : Spec.frameValid f = true) :
    ∃ bs, f.enc = ok bs ∧ (Base64.decode (Base64.encode bs)).map PHY.dec = some (ok (Spec.wire f)) := by
  obtain ⟨bs, h, hd⟩ := C01_valid_roundtrip f hv
  exact ⟨bs, h, by rw [C01_base64]; simp [hd]⟩

/-- "compared as the MAC commands they carry": the opaque FOpts / port-0 FRMPayload bytes of the decoded frame decode
(C07 stream theorem, any registry) into exactly the commands the sender put in. -/
theorem C01_commands (reg : Registry) (up : Bool) (cmds : List MacCmd) (bs : Bytes)
    (hw : ∀ c ∈ cmds, Stream.WellFramed reg up c) (he : encodeCmds cmds = ok bs) :
    decodeStream reg up bs = ok (cmds.map Stream.normCmd) :=
  Stream.stream_rt reg up cmds bs hw he

/-- join-accept payload (what the device sees after decryption): every value the encoder accepts — CFList absent, five channel
frequencies, or canonical channel masks (at most six, no trailing all-zero mask, which the wire cannot distinguish from
padding) — decodes to itself -/
theorem C01_joinaccept_roundtrip (ja : JoinAccept) (b : Bytes) (hcf : ∀ l, ja.cfList = some l → FrameRT.cfListCanonical l = true)
    (h : ja.enc = ok b) : JoinAccept.dec {} b = ok ja :=
  FrameRT.joinAccept_rt ja b hcf h

theorem C01_cflist_roundtrip (l : CFList) (b : Bytes) (hc : FrameRT.cfListCanonical l = true) (h : l.enc = ok b) :
    b.length = 16 ∧ CFList.dec b = ok l :=
  FrameRT.cfList_rt l b hc h

/-! non-vacuity -/
example : FrameRT.cfListCanonical { payload := .masks [0x00ff, 0, 0x0001], typ := 1 } = true := by decide
example : FrameRT.cfListCanonical { payload := .channels [868100000, 868300000, 0, 0, 0], typ := 0 } = true := by decide
def sampleFHDR : FHDR := { devAddr := 0x01020304#32, fCnt := 0x10007#32, fOpts := [.cmd { cid := 2, payload := none }] }
def sampleFrame : PHY := { mtype := 2, major := 0, mic := [1, 2, 3, 4], payload := some (.mac sampleFHDR (some 1) [.data [0xaa, 0xbb]]) }
example : Spec.shapeOK sampleFrame = true := by decide
example : Spec.frameValid sampleFrame = true := by decide

end LW.C01
