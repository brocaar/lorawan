/-
  C17 — backend-interface value types round-trip without loss; key envelopes follow RFC 3394.
  Model: LW.Model.Backend (exact integer model of binary64, RFC 3339 text, go-aes-key-wrap for two blocks);
  RFC 3394 as the RFC states it: LW.Spec.Backend.
  Proved here: Frequency (every integer 0 ≤ f < 2^32 Hz), Percentage (0..1000), HEXBytes (all byte strings), ISO8601Time (every instant of the years 0..9999 in every whole-minute zone), key envelopes (all keys, all KEKs,
  any lawful block cipher).
  NOT a theorem (checked by the differential runs and judged against the property at run time only): the composition of
  the 23 payload structs through encoding/json.
-/
import LW.Proofs.Float
import LW.Proofs.Backend
import LW.Proofs.Time
namespace LW.C17
open Outcome LW.Backend

/-- Frequency: every integer number of Hz in 0 ≤ f < 2^32 survives MarshalJSON (float64(f) / 10^6, printed and re-read
exactly) followed by UnmarshalJSON (× 10^6 in binary64, math.Round). Error analysis over exact integer arithmetic: two
roundings of relative size 2^-53 leave the product within 2^-20 of f.
(Before the repair c17-frequency-truncation the decoder truncated: 128200000 came back as 128199999.) -/
theorem C17_frequency_roundtrip (f : Nat) (hf : f < 2 ^ 32) : roundTripScaled 1000000 (f : Int) = some (f : Int) :=
  roundTrip_nat 1000000 f (by decide) (by decide) hf

/-- Percentage: every integer 0..1000 (the property asks for 0..100), by the same error analysis with scale 100 -/
theorem C17_percentage_roundtrip : ∀ p : Fin 1001, roundTripScaled 100 (p.val : Int) = some (p.val : Int) :=
  fun p => roundTrip_nat 100 p.val (by decide) (by decide) (Nat.lt_trans p.isLt (by decide))

/-- HEXBytes: every byte string, with and without the optional 0x prefix -/
theorem C17_hex_roundtrip (b : Bytes) : hexParse (hexText b) = ok b ∧ hexParse ('0' :: 'x' :: hexText b) = ok b := by
  refine ⟨?_, by simp only [hexParse, hexText, hexDecodeChars_hexOfByte]⟩
  unfold hexParse hexText
  split
  · rename_i r heq; exact absurd heq (flatMap_hexOfByte_ne_0x b r)
  · simp only [hexDecodeChars_hexOfByte]

/-- the wrapped key is the RFC 3394 ciphertext -/
theorem C17_wrap_is_rfc3394 (E : BlockCipher) (kek key : Bytes) (hk : validKEK kek) (hkey : key.length = 16) :
    newKeyEnvelope E true kek key = ok (true, Spec.Backend.wrap (E.enc kek) key) := by
  rw [newKeyEnvelope_wrap E kek key hk, wrap16_is_rfc3394 _ key hkey]

/-- unwrapping a 24-byte value succeeds exactly when the RFC 3394 integrity check passes, and yields the RFC's plaintext -/
theorem C17_unwrap_iff_integrity (E : BlockCipher) (kek ct : Bytes) (hk : validKEK kek) (h : ct.length = 24) :
    unwrapEnvelope E kek ct = (match Spec.Backend.unwrap (E.dec kek) ct with | some p => ok p | none => err) := by
  rcases hs : unwrapLoop (E.dec kek) 6 (ct.take 8, (ct.drop 8).take 8, ct.drop 16) with ⟨a, r1, r2⟩
  rw [unwrapEnvelope_eq E kek ct a r1 r2 hk h hs, spec_unwrap_eq (E.dec kek) ct a r1 r2 h hs]
  split <;> rfl

/-- a key wrapped with a KEK (16, 24 or 32 bytes, non-empty label) unwraps to the same key with that KEK -/
theorem C17_envelope_roundtrip (E : BlockCipher) (hE : E.Lawful) (kek key : Bytes) (hk : validKEK kek) (hkey : key.length = 16) :
    ∃ ct, newKeyEnvelope E true kek key = ok (true, ct) ∧ ct.length = 24 ∧ unwrapEnvelope E kek ct = ok key :=
  have hl := wrap16_length E hE kek key hkey
  ⟨_, newKeyEnvelope_wrap E kek key hk, hl, by rw [C17_unwrap_iff_integrity E kek _ hk hl, unwrap_wrap16 E hE kek key hkey]⟩

/-- any other length is an error, never a panic (shorter values made the key-wrap library panic before the repair
c17-unwrap-length) -/
theorem C17_unwrap_rejects_other_lengths (E : BlockCipher) (kek ct : Bytes) (h : ct.length ≠ 24) : unwrapEnvelope E kek ct = err := by
  simp [unwrapEnvelope, h]

/-- without a KEK label (or without a KEK) the key is carried in clear -/
theorem C17_clear_without_label (E : BlockCipher) (kek key : Bytes) :
    newKeyEnvelope E false kek key = ok (false, key) ∧ newKeyEnvelope E true [] key = ok (false, key) :=
  ⟨newKeyEnvelope_clear E false kek key (Or.inl rfl), newKeyEnvelope_clear E true [] key (Or.inr rfl)⟩

/-- ISO8601Time: the RFC 3339 text of the instant `sec` (Unix seconds; the layout drops the nanoseconds) shown in a zone
`offMin` whole minutes east of UTC parses back to exactly `sec`, for every instant whose year in that zone is 0..9999 (the
years the four-digit layout can write) and every offset below a day.  Rests on the correctness of the days ↔ civil date
conversion over whole 400-year eras (`C17_calendar`, below). -/
theorem C17_time_roundtrip (sec offMin : Int) (ho : -1440 < offMin ∧ offMin < 1440)
    (hy : 0 ≤ (civilFromDays ((sec + offMin * 60) / 86400)).1 ∧ (civilFromDays ((sec + offMin * 60) / 86400)).1 ≤ 9999) :
    parseRFC3339 (formatRFC3339 sec offMin) = some (sec, 0) := by
  obtain ⟨Y, Mo, D, H, Mi, S, hY, hMo0, hMo1, hD0, hD1, hH, hMi, hS, hsum, hfmt⟩ := formatRFC3339_fields sec offMin hy
  obtain ⟨hf, hz⟩ := zone_reads_back offMin ho.1 ho.2 _ rfl
  rw [hfmt, parse_fields hY hMo0 hMo1 hD0 hD1 hH hMi hS hf hz, hsum, Int.add_sub_cancel]

/-- the calendar under it: for EVERY day number the civil date is a real date (month 1..12, day 1..length of that month,
leap years by the Gregorian rule) and converts back to the same day number -/
theorem C17_calendar (z : Int) :
    1 ≤ (civilFromDays z).2.1 ∧ (civilFromDays z).2.1 ≤ 12 ∧ 1 ≤ (civilFromDays z).2.2 ∧
      (civilFromDays z).2.2 ≤ daysIn (civilFromDays z).1 (civilFromDays z).2.1 ∧
      daysFromCivil (civilFromDays z).1 (civilFromDays z).2.1 (civilFromDays z).2.2 = z :=
  civilFromDays_ok z

/-! non-vacuity -/
example : civilFromDays ((-62167219200 + 0 * 60) / 86400) = (0, 1, 1) := by decide
example : civilFromDays ((253402300799 + 0 * 60) / 86400) = (9999, 12, 31) := by decide
example : civilFromDays ((1583020800 + 0 * 60) / 86400) = (2020, 3, 1) ∧ civilFromDays ((1582934400 + 0 * 60) / 86400) = (2020, 2, 29) := by decide
example : parseRFC3339 (formatRFC3339 1582934399 (-330)) = some (1582934399, 0) := by decide
example : (128200000 : Nat) < 2 ^ 32 := by decide
example : validKEK ((List.range 24).map byteOfNat) := by simp [validKEK]

end LW.C17
