/-
  C05 — end-to-end secure frame exchange. The sender / receiver pipelines are `LW.sender` / `LW.receiver`
  (LW/Model/Exchange.lean); C05_exchange is the composed statement (proof: LW/Proofs/Exchange.lean).
-/
import LW.Proofs.Exchange
import LW.Props.C02
import LW.Props.C03
namespace LW.C05
open Outcome ExchangeProofs

/-- First clause, composed: ANY data frame (uplink or downlink, confirmed or not: MType 2..5) whose FOpts are MAC commands
`fo` (at most 15 bytes encoded) and whose FRMPayload is a `Content` — absent, MAC commands on port 0, or application bytes on
a port ≠ 0 — that the sender pipeline (encrypt FRMPayload → 1.1: encrypt FOpts → set MIC → marshal) turns into bytes `bs`
is ACCEPTED by the receiver pipeline (unmarshal → restore the 32-bit counter → validate MIC → 1.1: decrypt / 1.0: decode
FOpts → decrypt FRMPayload) holding the same keys, parameters and the upper 16 counter bits, and the receiver ends up with
exactly the sender's commands (`normItems`: DeviceTimeAns rounded to 1/256 s, as C07 states), payload bytes, port, DevAddr,
full 32-bit FCnt and FCtrl flags (FPending / ClassB share one bit on the wire: `rxCtrl`).  Both MAC versions (`lp.ver`), any
lawful block cipher, any keys, any registry (any history of proprietary registrations under which the commands are framed).
Composition of C01 (codec), C02 (MIC = spec), C03 (involutions) and C07 (streams); that the receiver computes the sender's MIC
is C08 (the decoded MACPayload re-encodes to the bytes received). -/
theorem C05_exchange (E : BlockCipher) (hE : E.Lawful) (reg : Registry) (lp : LinkParams) (ek ak : Bytes) (mt mj : Byte) (mic0 : Bytes)
    (addr fcnt : BitVec 32) (ctrl : FCtrl) (fo : List MacCmd) (c : Content) (bs : Bytes)
    (hmt : mt = 2#8 ∨ mt = 3#8 ∨ mt = 4#8 ∨ mt = 5#8) (hmj : mj.toNat ≤ 3)
    (hwf : ∀ x ∈ fo, Stream.WellFramed reg (isUplinkMType mt) x) (hc : c.OK reg (isUplinkMType mt))
    (hfol : ∀ macB, encodeCmds fo = ok macB → macB.length ≤ 15)
    (hs : sender E lp ek ak { mtype := mt, major := mj, mic := mic0, payload := some (.mac { devAddr := addr, fCtrl := ctrl, fCnt := fcnt, fOpts := cmdItems fo } c.fPort c.frm) } = ok bs) :
    ∃ mic macB, encodeCmds fo = ok macB ∧ macB.length ≤ 15 ∧
      receiver E reg lp ek ak (fcnt &&& 0xffff0000#32) bs =
        .accepted { mtype := mt, major := mj, mic := mic, payload := some (.mac { devAddr := addr, fCtrl := rxCtrl ctrl macB.length, fCnt := fcnt, fOpts := normItems fo } c.fPort c.rx) } :=
  exchange E hE reg lp ek ak mt mj mic0 addr fcnt ctrl fo c bs hmt hmj hwf hc hfol hs

/-- Tamper clause: for ANY received bytes and ANY receiver parameters, a data frame is accepted exactly when it carries the
specification's MIC for those parameters and the receiver's 32-bit counter (uplink shown; the MIC is over the re-serialised
frame, which by C08 is the received byte string). -/
theorem C05_reject_iff_up (E : BlockCipher) (lp : LinkParams) (q : PHY) (h : FHDR) (fPort : Option Byte) (frm : List Item) (b : Bytes)
    (hp : q.payload = some (.mac h fPort frm)) (hb : macEnc h fPort frm = ok b) :
    validateMIC q (calcUplinkDataMIC E lp.ver lp.conf lp.txDr lp.txCh lp.fKey lp.sKey q) =
      ok (q.mic == Spec.micUp E (lp.ver != 0) lp.conf lp.txDr lp.txCh lp.fKey lp.sKey h.devAddr h.fCnt h.fCtrl.ack (mhdrEnc q.mtype q.major :: b)) :=
  C02.C02_validate_up_iff E lp.ver lp.conf lp.txDr lp.txCh lp.fKey lp.sKey q h fPort frm b hp hb

theorem C05_reject_iff_down (E : BlockCipher) (lp : LinkParams) (q : PHY) (h : FHDR) (fPort : Option Byte) (frm : List Item) (b : Bytes)
    (hp : q.payload = some (.mac h fPort frm)) (hb : macEnc h fPort frm = ok b) :
    validateMIC q (calcDownlinkDataMIC E lp.ver lp.conf lp.sKey q) =
      ok (q.mic == Spec.micDown E (lp.ver != 0) lp.conf lp.sKey h.devAddr h.fCnt h.fCtrl.ack (mhdrEnc q.mtype q.major :: b)) :=
  C02.C02_validate_down_iff E lp.ver lp.conf lp.sKey q h fPort frm b hp hb

/-- The direction is a parameter of the receiver too: taking a frame for the opposite direction is validating it with the other
function, to which `C05_reject_iff_up` / `C05_reject_iff_down` apply whatever the MType says (their `Spec.micUp` / `Spec.micDown`
carry the direction byte 0 / 1 of the validating side); with the frame's own direction it is the receiver of `C05_exchange`. -/
theorem C05_receiver_own_direction (E : BlockCipher) (reg : Registry) (lp : LinkParams) (ek ak : Bytes) (hi : BitVec 32) (bs : Bytes) :
    receiverDir false E reg lp ek ak hi bs = receiver E reg lp ek ak hi bs := by
  unfold receiverDir receiver
  simp

/-- Encryption round trip inside the pipeline: what the receiver's `EncryptFRMPayload` call undoes is what the sender's did -/
theorem C05_frm_recovered (E : BlockCipher) (hE : E.Lawful) (key : Bytes) (up : Bool) (addr fcnt : BitVec 32) (data : Bytes) :
    encryptFRMPayload E key up addr fcnt (encryptFRMPayload E key up addr fcnt data) = data :=
  C03.C03_frm_involution E hE key up addr fcnt data

/-! non-vacuity: a toy lawful cipher, an unconfirmed uplink with LinkCheckReq in FOpts and three application bytes on port 10,
LoRaWAN 1.1, counter 0x12345: the sender succeeds, so the hypotheses of C05_exchange are met -/
def toyCipher : BlockCipher := { enc := fun _ b => (b ++ zeros 16).take 16, dec := fun _ b => (b ++ zeros 16).take 16 }
theorem toy_lawful : toyCipher.Lawful := by
  refine ⟨?_, ?_, ?_, ?_⟩ <;> intros <;> simp_all [toyCipher, zeros]
example : (sender toyCipher { ver := 1, conf := 0, txDr := 0, txCh := 0, fKey := zeros 16, sKey := zeros 16 } (zeros 16) (zeros 16)
    { mtype := 2, major := 0, mic := [0, 0, 0, 0], payload := some (.mac { devAddr := 0x01020304#32, fCtrl := {}, fCnt := 0x12345#32, fOpts := cmdItems [{ cid := 2, payload := none }] } (Content.app 10 [1, 2, 3]).fPort (Content.app 10 [1, 2, 3]).frm) }).isOk = true := by
  decide
example : ∀ x ∈ [({ cid := 2, payload := none } : MacCmd)], Stream.WellFramed [] true x := by
  intro x hx; cases List.mem_singleton.mp hx; rfl

end LW.C05
