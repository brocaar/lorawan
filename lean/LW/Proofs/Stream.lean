/-
  LW.Proofs.Stream — the MAC-command stream decoder inverts concatenated encodings, for ANY registry
  (hence for every history of proprietary registrations).
-/
import LW.Proofs.MacRT
namespace LW.Stream
open Outcome MacRT

/-- a command is framed consistently with registry `reg` in direction `up` -/
def WellFramed (reg : Registry) (up : Bool) (c : MacCmd) : Prop :=
  match c.payload with
  | none => reg.lookup up c.cid.toNat = none
  | some p => ∃ e bs, reg.lookup up c.cid.toNat = some e ∧ e.kind = p.kind ∧ p.enc = ok bs ∧ e.size = (bs.length : Int) ∧ 0 < bs.length

/-- what a command looks like after the wire (DeviceTimeAns is rounded to 1/256 s) -/
def normCmd (c : MacCmd) : MacCmd := { c with payload := c.payload.map Spec.wireNorm }

theorem encodeCmds_cons {c : MacCmd} {cs : List MacCmd} {bs : Bytes} :
    encodeCmds (c :: cs) = ok bs ↔ ∃ cb, c.enc = ok cb ∧ ∃ rb, encodeCmds cs = ok rb ∧ cb ++ rb = bs := by
  simp only [encodeCmds, bind_eq_ok, ok.injEq]

/-- a command is at least its CID byte -/
theorem cmd_enc_length_pos {c : MacCmd} {b : Bytes} (h : c.enc = ok b) : 0 < b.length := by
  unfold MacCmd.enc at h
  split at h
  · cases h; exact Nat.zero_lt_succ _
  · obtain ⟨x, -, hx⟩ := bind_eq_ok.mp h
    cases hx; exact Nat.zero_lt_succ _

theorem decodeStreamAux_nil (reg : Registry) (up : Bool) (fuel : Nat) (acc : List MacCmd) :
    decodeStreamAux reg up fuel [] acc = ok acc.reverse := by
  cases fuel <;> rfl

theorem decodeStreamAux_unregistered (reg : Registry) (up : Bool) (fuel : Nat) (c : Byte) (rest : Bytes) (acc : List MacCmd)
    (h : reg.lookup up c.toNat = none) :
    decodeStreamAux reg up (fuel + 1) (c :: rest) acc = decodeStreamAux reg up fuel rest ({ cid := c, payload := none } :: acc) := by
  rw [decodeStreamAux, h]
  rfl

theorem decodeStreamAux_wellFramed {reg : Registry} {up : Bool} {c : MacCmd} {cb : Bytes} (hw : WellFramed reg up c) (he : c.enc = ok cb)
    (rest : Bytes) (fuel : Nat) (acc : List MacCmd) :
    decodeStreamAux reg up (fuel + 1) (cb ++ rest) acc = decodeStreamAux reg up fuel rest (normCmd c :: acc) := by
  obtain ⟨cid, pl⟩ := c
  cases pl with
  | none =>
    cases ok.inj he
    exact decodeStreamAux_unregistered reg up fuel cid rest acc hw
  | some p =>
    obtain ⟨e, pb, hl, hk, hpe, hsz, hpos⟩ := hw
    simp only [MacCmd.enc, hpe, ok_bind, ok.injEq] at he
    subst he
    simp only [List.cons_append, decodeStreamAux, hl, hsz, Int.toNat_natCast]
    rw [if_neg (by omega), if_neg (by simp), List.take_left' rfl, List.drop_left' rfl]
    obtain ⟨x, xs, rfl⟩ := List.exists_cons_of_length_pos hpos
    simp only [MacCmd.dec, hl, hk, lossless p _ hpe, normCmd, Option.map_some]

theorem stream_aux (reg : Registry) (up : Bool) (cmds : List MacCmd) :
    ∀ (bs : Bytes) (fuel : Nat) (acc : List MacCmd), (∀ c ∈ cmds, WellFramed reg up c) → encodeCmds cmds = ok bs →
      bs.length ≤ fuel → decodeStreamAux reg up fuel bs acc = ok (acc.reverse ++ cmds.map normCmd) := by
  induction cmds with
  | nil =>
    intro bs fuel acc _ he _
    cases ok.inj he
    rw [decodeStreamAux_nil, List.map_nil, List.append_nil]
  | cons c cs ih =>
    intro bs fuel acc hw he hf
    obtain ⟨cb, hc, rb, hr, rfl⟩ := encodeCmds_cons.mp he
    rw [List.length_append] at hf
    have hpos := cmd_enc_length_pos hc
    obtain ⟨f, rfl⟩ : ∃ f, fuel = f + 1 := ⟨fuel - 1, by omega⟩
    rw [decodeStreamAux_wellFramed (hw c List.mem_cons_self) hc, ih rb f _ (fun c' h => hw c' (List.mem_cons_of_mem _ h)) hr (by omega)]
    simp

theorem stream_rt (reg : Registry) (up : Bool) (cmds : List MacCmd) (bs : Bytes)
    (hw : ∀ c ∈ cmds, WellFramed reg up c) (he : encodeCmds cmds = ok bs) :
    decodeStream reg up bs = ok (cmds.map normCmd) := by
  have := stream_aux reg up cmds bs bs.length [] hw he (Nat.le_refl _)
  simpa [decodeStream] using this

end LW.Stream
