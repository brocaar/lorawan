/-
  LW.Proofs.Plan — the LinkADRReq planner / apply refinement (C14).
  Both planners walk a list of channel indices and emit one payload per visited 16-channel block (`blocks`); every mask they
  emit is "bit i ⇔ P (16 K + i)" for a predicate P on channel indices; applying such payloads overwrites exactly the visited
  blocks with P (`apply_blocks`). The device's bit differs from the target exactly on the filtered difference
  (`devbit_eq_tbit_iff`), which the visited blocks cover.
-/
import LW.Proofs.Band
namespace LW.PlanProofs
open Outcome BandProofs

/-! The specification that the statements of C14 speak of. -/

/-- bit j of the target: channel j is enabled on the network and is standard or already active on the device -/
def tbit (b : BandState) (dev : List Int) (j : Nat) : Bool :=
  match b.up[j]? with
  | some ch => ch.enabled && (!ch.custom || dev.contains (Int.ofNat j))
  | none => false

def targetMask (b : BandState) (dev : List Int) : List Bool := (List.range b.up.length).map (tbit b dev)

theorem mem_intSliceDiff (x y : List Int) (c : Int) : c ∈ intSliceDiff x y ↔ (c ∈ x ∧ c ∉ y) ∨ (c ∈ y ∧ c ∉ x) := by
  simp [intSliceDiff, List.mem_append, List.mem_filter]

theorem mem_insertKeep (x : Int) (l : List Int) (c : Int) : c ∈ insertKeep x l ↔ c = x ∨ c ∈ l := by
  induction l with
  | nil => simp [insertKeep]
  | cons y ys ih =>
    simp only [insertKeep]
    split
    · simp
    · simp only [List.mem_cons, ih]; exact or_left_comm

theorem mem_sortInts {l : List Int} {c : Int} : c ∈ sortInts l ↔ c ∈ l := by
  induction l with
  | nil => simp [sortInts]
  | cons x xs ih => rw [show sortInts (x :: xs) = insertKeep x (sortInts xs) from rfl, mem_insertKeep, ih, List.mem_cons]

theorem insertKeep_sorted (x : Int) (l : List Int) (h : l.Pairwise (· ≤ ·)) : (insertKeep x l).Pairwise (· ≤ ·) := by
  induction l with
  | nil => simp [insertKeep]
  | cons y ys ih =>
    have hy := List.pairwise_cons.mp h
    simp only [insertKeep]
    split
    · rename_i hxy
      exact List.Pairwise.cons (fun z hz => (List.mem_cons.mp hz).elim (· ▸ hxy) fun hz' => Int.le_trans hxy (hy.1 z hz')) h
    · refine List.Pairwise.cons (fun z hz => ?_) (ih hy.2)
      rcases (mem_insertKeep x ys z).mp hz with rfl | hz'
      · omega
      · exact hy.1 z hz'

theorem sortInts_sorted (l : List Int) : (sortInts l).Pairwise (· ≤ ·) := by
  induction l with
  | nil => simp [sortInts]
  | cons x xs ih => exact insertKeep_sorted x _ ih

theorem natCast_mem_enabledIdx (b : BandState) (j : Nat) : (j : Int) ∈ b.enabledIdx ↔ ∃ ch, b.up[j]? = some ch ∧ ch.enabled = true := by
  rw [BandState.enabledIdx, mem_indicesWhere]
  exact ⟨fun ⟨n, hn, h⟩ => Int.ofNat.inj hn ▸ h, fun h => ⟨j, rfl, h⟩⟩

theorem enabledIdx_range (b : BandState) (c : Int) (h : c ∈ b.enabledIdx) : 0 ≤ c ∧ c < (b.up.length : Int) := by
  obtain ⟨j, rfl, ch, hl, -⟩ := mem_indicesWhere.mp h
  have := (List.getElem?_eq_some_iff.mp hl).1
  omega

theorem diff_range (b : BandState) (dev : List Int) (hdev : ∀ c ∈ dev, 0 ≤ c ∧ c < (b.up.length : Int)) :
    ∀ c ∈ sortInts (intSliceDiff dev b.enabledIdx), 0 ≤ c ∧ c < (b.up.length : Int) := by
  intro c hc
  rcases (mem_intSliceDiff _ _ c).mp (mem_sortInts.mp hc) with h | h
  · exact hdev c h.1
  · exact enabledIdx_range b c h.1

/-- membership in the enabled set, read off the channel list -/
theorem contains_enabledIdx (b : BandState) (j : Nat) :
    b.enabledIdx.contains (j : Int) = match b.up[j]? with | some ch => ch.enabled | none => false := by
  rw [Bool.eq_iff_iff, List.contains_iff_mem, natCast_mem_enabledIdx]
  cases b.up[j]? with
  | none => simp only [reduceCtorEq, false_and, exists_false, Bool.false_eq_true]
  | some ch => simp only [Option.some.injEq, exists_eq_left']

theorem tbit_eq (b : BandState) (dev : List Int) (j : Nat) :
    tbit b dev j = (b.enabledIdx.contains (j : Int) && (!customAt b.up j || dev.contains (j : Int))) := by
  rw [contains_enabledIdx]
  unfold tbit customAt
  cases h : b.up[j]? with
  | none => rfl
  | some ch => simp only [List.getD_eq_getElem?_getD, Int.toNat_natCast, h, Option.getD_some, Int.ofNat_eq_natCast]

theorem devbit_eq_tbit_iff {b : BandState} {dev : List Int} {j : Nat} :
    dev.contains (j : Int) = tbit b dev j ↔ (j : Int) ∉ filterDiff b.up dev (intSliceDiff dev b.enabledIdx) := by
  have : ∀ d e k : Bool, d = (e && (!k || d)) ↔ ¬ (((d = true ∧ ¬ e = true) ∨ (e = true ∧ ¬ d = true)) ∧ (d || !k) = true) := by decide
  rw [tbit_eq, filterDiff, List.mem_filter, mem_intSliceDiff]
  simp only [← List.contains_iff_mem]
  exact this _ _ _

theorem foldl_or_bit (l : List Int) (p : Int → Prop) [DecidablePred p] (a : BitVec 16) (i : Nat) (hi : i < 16) :
    (l.foldl (fun (acc : BitVec 16) c => if p c then acc ||| BitVec.ofNat 16 (2 ^ (c % 16).toNat) else acc) a).getLsbD i = true
      ↔ a.getLsbD i = true ∨ ∃ c ∈ l, p c ∧ (c % 16).toNat = i := by
  induction l generalizing a with
  | nil => simp
  | cons x xs ih =>
    rw [List.foldl_cons, ih]
    by_cases hp : p x
    · simp only [hp, ↓reduceIte, BitVec.getLsbD_or, Bool.or_eq_true, BitVec.getLsbD_ofNat, Nat.testBit_two_pow, hi, decide_true,
        Bool.true_and, decide_eq_true_eq, List.mem_cons, exists_eq_or_imp, true_and, or_assoc]
    · simp only [hp, ↓reduceIte, List.mem_cons, exists_eq_or_imp, false_and, false_or]

/-- when the selected members lie in block K, bit i of the OR-fold says whether channel 16 K + i is selected -/
theorem block_bit (l : List Int) (p : Int → Prop) [DecidablePred p] (K i : Nat) (hi : i < 16)
    (hwin : ∀ c ∈ l, p c → (K : Int) * 16 ≤ c ∧ c < ((K : Int) + 1) * 16) :
    (l.foldl (fun (acc : BitVec 16) c => if p c then acc ||| BitVec.ofNat 16 (2 ^ (c % 16).toNat) else acc) 0).getLsbD i = true
      ↔ ((16 * K + i : Nat) : Int) ∈ l ∧ p ((16 * K + i : Nat) : Int) := by
  rw [foldl_or_bit l p 0 i hi]
  constructor
  · rintro (h | ⟨c, hc, hp, hm⟩)
    · simp at h
    · obtain ⟨h1, h2⟩ := hwin c hc hp
      obtain rfl : c = ((16 * K + i : Nat) : Int) := by omega
      exact ⟨hc, hp⟩
  · rintro ⟨hc, hp⟩
    exact Or.inr ⟨_, hc, hp, by omega⟩

theorem blockMask_bit (b : BandState) (dev : List Int) (K i : Nat) (hi : i < 16) :
    (blockMask b.up dev b.enabledIdx (K : Int)).getLsbD i = tbit b dev (16 * K + i) := by
  rw [tbit_eq, Bool.eq_iff_iff, blockMask, block_bit _ _ K i hi]
  · have h1 : ((16 * K + i : Nat) : Int) ≥ (K : Int) * 16 := by omega
    have h2 : ((16 * K + i : Nat) : Int) < ((K : Int) + 1) * 16 := by omega
    simp only [Bool.and_eq_true, decide_eq_true_eq, List.contains_iff_mem, h1, h2, and_true]
  · intro c _ hp
    simp only [Bool.and_eq_true, decide_eq_true_eq] at hp
    exact ⟨hp.1.2, hp.2⟩

def payload (M : Int → BitVec 16) (k : Int) : Plan := { cntl := BitVec.ofInt 8 k, mask := M k }

theorem payload_cntl (M : Int → BitVec 16) (K : Nat) : (payload M K).cntl = BitVec.ofNat 8 K := BitVec.ofInt_natCast ..

/-- a payload for one of the blocks 0..7 is encodable by the MAC layer (ChMaskCntl ≤ 7; DataRate, TXPower, NbRep are zero) -/
theorem payload_encodable (M : Int → BitVec 16) {K : Nat} (hK : K ≤ 7) :
    (payload M K).cntl.toNat ≤ 7 ∧ ((MacP.linkADRReq 0 0 (payload M K).mask (payload M K).cntl 0).enc).isOk = true := by
  have h7 : (payload M K).cntl.toNat ≤ 7 := by rw [payload_cntl, BitVec.toNat_ofNat]; omega
  exact ⟨h7, by simp [MacP.enc, redundancyEnc, Nat.not_lt.mpr h7, Outcome.isOk]⟩

/-- the blocks a planner visits: block c / 16 of each index in turn, unless it is the block just visited -/
def blocks : List Int → Int → List Int
  | [], _ => []
  | c :: cs, cur => if Int.tdiv c 16 != cur then Int.tdiv c 16 :: blocks cs (Int.tdiv c 16) else blocks cs cur

theorem planLoop_eq (up : List Channel) (dev en l : List Int) (cur : Int) :
    planLoop up dev en l cur = (blocks l cur).map (payload (blockMask up dev en)) := by
  induction l generalizing cur with
  | nil => rfl
  | cons c cs ih => simp only [planLoop, blocks, ih]; split <;> rfl

theorem blocks_sound (l : List Int) (cur k : Int) (h : k ∈ blocks l cur) : ∃ c ∈ l, k = Int.tdiv c 16 := by
  induction l generalizing cur with
  | nil => cases h
  | cons c cs ih =>
    simp only [blocks] at h
    split at h
    · rcases List.mem_cons.mp h with h | h
      · exact ⟨c, List.mem_cons_self, h⟩
      · exact (ih _ h).imp fun _ h => ⟨List.mem_cons_of_mem _ h.1, h.2⟩
    · exact (ih _ h).imp fun _ h => ⟨List.mem_cons_of_mem _ h.1, h.2⟩

theorem blocks_complete (l : List Int) (cur c : Int) (hc : c ∈ l) : Int.tdiv c 16 = cur ∨ Int.tdiv c 16 ∈ blocks l cur := by
  induction l generalizing cur with
  | nil => cases hc
  | cons x xs ih =>
    simp only [blocks]
    split
    · rcases List.mem_cons.mp hc with rfl | hmem
      · exact Or.inr List.mem_cons_self
      · exact Or.inr ((ih _ hmem).elim (· ▸ List.mem_cons_self) (List.mem_cons_of_mem _))
    · rename_i hx
      rcases List.mem_cons.mp hc with rfl | hmem
      · exact Or.inl (by simpa using hx)
      · exact ih cur hmem

/-- the block of a channel number in the list is visited from the start (Go's `c / 16` is then the floor, and never the start value -1) -/
theorem mem_blocks {l : List Int} {c : Int} (hc : c ∈ l) (h0 : 0 ≤ c) : c / 16 ∈ blocks l (-1) := by
  rw [← Int.tdiv_eq_ediv_of_nonneg h0]
  refine (blocks_complete l (-1) c hc).resolve_left fun h => ?_
  rw [Int.tdiv_eq_ediv_of_nonneg h0] at h
  omega

/-- Over a sorted list of channel numbers below 16 B the visited blocks increase strictly from the last one visited, `cur`, and stay
below B: with `cur + 1` blocks behind, at most `B - (cur + 1)` are to come. -/
theorem blocks_count (l : List Int) (B : Nat) (cur : Int) (hs : l.Pairwise (· ≤ ·))
    (hl : ∀ c ∈ l, 0 ≤ c ∧ c < 16 * (B : Int) ∧ cur ≤ c / 16) (hcur : cur < B) :
    ((blocks l cur).length : Int) + (cur + 1) ≤ B := by
  induction l generalizing cur with
  | nil => simp only [blocks, List.length_nil]; omega
  | cons c cs ih =>
    obtain ⟨h0, hB, hlo⟩ := hl c List.mem_cons_self
    have hp := List.pairwise_cons.mp hs
    have hrest : ∀ cur', cur' ≤ c / 16 → ∀ c' ∈ cs, 0 ≤ c' ∧ c' < 16 * (B : Int) ∧ cur' ≤ c' / 16 := fun cur' h c' hc' => by
      have := hl c' (List.mem_cons_of_mem _ hc')
      have := hp.1 c' hc'
      omega
    simp only [blocks, Int.tdiv_eq_ediv_of_nonneg h0]
    split
    · rename_i hne
      have hne : c / 16 ≠ cur := by simpa using hne
      have := ih (c / 16) hp.2 (hrest _ (Int.le_refl _)) (by omega)
      simp only [List.length_cons]
      omega
    · exact ih cur hp.2 (hrest _ hlo) hcur

theorem applyBlock_ok (n base : Nat) (mask : BitVec 16) (m : List Bool)
    (hov : ∀ i, i < 16 → base + i ≥ n → mask.getLsbD i = false) :
    applyBlock n base mask m = ok ((List.range m.length).map fun j => if base ≤ j ∧ j < base + 16 then mask.getLsbD (j - base) else m.getD j false) := by
  refine if_neg fun h => ?_
  obtain ⟨i, hi, hc⟩ := List.any_eq_true.mp h
  simp only [List.mem_range, Bool.and_eq_true, decide_eq_true_eq] at hi hc
  rw [hov i hi hc.1] at hc
  cases hc.2

theorem applyGenericLoop_ne_panic (n : Nat) (pls : List Plan) (m : List Bool) : applyGenericLoop n pls m ≠ panic := by
  induction pls generalizing m with
  | nil => nofun
  | cons p ps ih => exact bind_ne_panic.mpr ⟨by unfold applyBlock; split <;> nofun, fun m' _ => ih m'⟩

theorem getD_map_range {n : Nat} {f : Nat → Bool} {j : Nat} (hj : j < n) : ((List.range n).map f).getD j false = f j := by
  simp [List.getD, hj]

theorem map_range_getD (m : List Bool) : (List.range m.length).map (fun j => m.getD j false) = m := by
  apply List.ext_getElem (by simp)
  intro i h1 h2
  simp [List.getD, List.getElem?_eq_getElem h2]

theorem devMask_length (n : Nat) (dev : List Int) : (devMask n dev).length = n := by
  rw [devMask, List.length_map, List.length_range]

theorem apply_blocks {n : Nat} (hn : n ≤ 128) (P : Nat → Bool) (hP : ∀ j, n ≤ j → P j = false) {M : Int → BitVec 16}
    (hM : ∀ (K : Nat) i, i < 16 → (M K).getLsbD i = P (16 * K + i))
    {ks : List Int} (hks : ∀ k ∈ ks, 0 ≤ k ∧ 16 * k < n) {m : List Bool} (hm : m.length = n) :
    applyGenericLoop n (ks.map (payload M)) m =
      ok ((List.range n).map fun j => if ((j / 16 : Nat) : Int) ∈ ks then P j else m.getD j false) := by
  induction ks generalizing m with
  | nil => simp only [List.map_nil, applyGenericLoop, List.not_mem_nil, if_false, ← hm, map_range_getD]
  | cons k ks ih =>
    obtain ⟨h0, hlt⟩ := hks k List.mem_cons_self
    obtain ⟨K, rfl⟩ := Int.eq_ofNat_of_zero_le h0
    -- the base ChMaskCntl * 16 is a uint8 product; for blocks 0..7 it does not wrap
    have hbase : ((payload M K).cntl * 16#8).toNat = 16 * K := by
      have : ∀ k : Fin 8, ((BitVec.ofNat 8 k.val) * 16#8).toNat = 16 * k.val := by decide
      rw [payload_cntl]; exact this ⟨K, by omega⟩
    rw [List.map_cons, applyGenericLoop, hbase,
      applyBlock_ok n (16 * K) (payload M K).mask m fun i hi hge => (hM K i hi).trans (hP _ hge), ok_bind,
      ih (fun k hk => hks k (List.mem_cons_of_mem _ hk)) (by simp [hm]), hm]
    refine congrArg ok (List.map_congr_left fun j hj => ?_)
    rw [getD_map_range (List.mem_range.mp hj)]
    by_cases hK : j / 16 = K
    · have hin : 16 * K ≤ j ∧ j < 16 * K + 16 := by omega
      have hbit : (payload M K).mask.getLsbD (j - 16 * K) = P (16 * K + (j - 16 * K)) := hM K _ (by omega)
      rw [if_pos (hK ▸ List.mem_cons_self : ((j / 16 : Nat) : Int) ∈ (K : Int) :: ks), if_pos hin, hbit,
        show 16 * K + (j - 16 * K) = j by omega, ite_self]
    · have hout : ¬ (16 * K ≤ j ∧ j < 16 * K + 16) := by omega
      have hne : ((j / 16 : Nat) : Int) ≠ (K : Int) := fun h => hK (Int.ofNat.inj h)
      simp only [if_neg hout, List.mem_cons, hne, false_or]

theorem blocks_range (l : List Int) (n : Nat) (hl : ∀ c ∈ l, 0 ≤ c ∧ c < (n : Int)) (cur k : Int) (hk : k ∈ blocks l cur) :
    0 ≤ k ∧ 16 * k < (n : Int) := by
  obtain ⟨c, hc, rfl⟩ := blocks_sound l cur k hk
  obtain ⟨h0, h1⟩ := hl c hc
  rw [Int.tdiv_eq_ediv_of_nonneg h0]
  omega

/-- What both planners rest on: one payload per block visited by a list of channel numbers, each mask carrying P, reaches P from
any mask that already has P at the channels the list does not mention. -/
theorem apply_plan {n : Nat} (hn : n ≤ 128) (P : Nat → Bool) (hP : ∀ j, n ≤ j → P j = false) {M : Int → BitVec 16}
    (hM : ∀ (K : Nat) i, i < 16 → (M K).getLsbD i = P (16 * K + i))
    {l : List Int} (hl : ∀ c ∈ l, 0 ≤ c ∧ c < (n : Int)) {m : List Bool} (hm : m.length = n)
    (hkeep : ∀ j, j < n → (j : Int) ∉ l → m.getD j false = P j) :
    applyGenericLoop n ((blocks l (-1)).map (payload M)) m = ok ((List.range n).map P) := by
  rw [apply_blocks hn P hP hM (blocks_range l n hl _) hm]
  refine congrArg ok (List.map_congr_left fun j hj => ?_)
  split
  · rfl
  · rename_i hnot
    exact hkeep j (List.mem_range.mp hj) fun hmem => hnot (Int.natCast_ediv j 16 ▸ mem_blocks hmem (Int.natCast_nonneg j))

theorem planGeneric_eq (b : BandState) (dev : List Int) :
    b.planGeneric dev = if filterDiff b.up dev (intSliceDiff dev b.enabledIdx) = [] then []
      else (blocks (sortInts (intSliceDiff dev b.enabledIdx)) (-1)).map (payload (blockMask b.up dev b.enabledIdx)) := by
  simp only [BandState.planGeneric, planLoop_eq, List.length_eq_zero_iff, Bool.or_eq_true, beq_iff_eq]
  by_cases h : filterDiff b.up dev (intSliceDiff dev b.enabledIdx) = []
  · rw [if_pos h, if_pos (Or.inr h)]
  · rw [if_neg h, if_neg (not_or.mpr ⟨fun hd => h (by rw [hd]; rfl), h⟩)]

theorem mem_planGeneric (b : BandState) (dev : List Int) (hdev : ∀ c ∈ dev, 0 ≤ c ∧ c < (b.up.length : Int))
    (p : Plan) (hp : p ∈ b.planGeneric dev) :
    ∃ K : Nat, 16 * K < b.up.length ∧ p = payload (blockMask b.up dev b.enabledIdx) K := by
  rw [planGeneric_eq] at hp
  split at hp
  · cases hp
  · obtain ⟨k, hk, rfl⟩ := List.mem_map.mp hp
    obtain ⟨h0, hlt⟩ := blocks_range _ _ (diff_range b dev hdev) _ k hk
    obtain ⟨K, rfl⟩ := Int.eq_ofNat_of_zero_le h0
    exact ⟨K, by omega, rfl⟩

theorem planGeneric_apply (b : BandState) (dev : List Int) (hn : b.up.length ≤ 128)
    (hdev : ∀ c ∈ dev, 0 ≤ c ∧ c < (b.up.length : Int)) :
    applyGenericLoop b.up.length (b.planGeneric dev) (devMask b.up.length dev) = ok (targetMask b dev) := by
  have hkeep : ∀ j, j < b.up.length → (j : Int) ∉ filterDiff b.up dev (intSliceDiff dev b.enabledIdx) →
      (devMask b.up.length dev).getD j false = tbit b dev j := fun j hj hmem => by
    rw [devMask, getD_map_range hj]; exact devbit_eq_tbit_iff.mpr hmem
  rw [planGeneric_eq]
  split
  · rename_i hf
    rw [applyGenericLoop, ← map_range_getD (devMask _ _), devMask_length]
    exact congrArg ok (List.map_congr_left fun j hj => hkeep j (List.mem_range.mp hj) (by rw [hf]; exact List.not_mem_nil))
  · exact apply_plan hn _ (fun j hj => by rw [tbit, List.getElem?_eq_none hj]) (blockMask_bit b dev) (diff_range b dev hdev) (devMask_length ..)
      fun j hj hmem => hkeep j hj fun hf => hmem (mem_sortInts.mpr (List.mem_filter.mp hf).1)

/-- blocks inside 96 channels are never ChMaskCntl 6 or 7, the only payloads the US915 / AU915 loop treats differently -/
theorem applyUS_blocks (n : Nat) (hn : n ≤ 96) (M : Int → BitVec 16)
    (ks : List Int) (hks : ∀ k ∈ ks, 0 ≤ k ∧ 16 * k < (n : Int)) (m : List Bool) :
    applyUSLoop n (ks.map (payload M)) m = applyGenericLoop n (ks.map (payload M)) m := by
  induction ks generalizing m with
  | nil => rfl
  | cons k ks ih =>
    obtain ⟨h0, hlt⟩ := hks k List.mem_cons_self
    obtain ⟨K, rfl⟩ := Int.eq_ofNat_of_zero_le h0
    have hc : ¬ (((payload M K).cntl == 6) = true ∨ ((payload M K).cntl == 7) = true) := by
      have : ∀ k : Fin 6, ¬ ((BitVec.ofNat 8 k.val == (6 : Byte)) = true ∨ (BitVec.ofNat 8 k.val == (7 : Byte)) = true) := by decide
      rw [payload_cntl]; exact this ⟨K, by omega⟩
    rw [List.map_cons, applyUSLoop, if_neg hc]
    exact congrArg _ (funext fun m' => ih (fun k hk => hks k (List.mem_cons_of_mem _ hk)) m')

theorem applyUS_planGeneric (b : BandState) (dev : List Int) (hn : b.up.length ≤ 96)
    (hdev : ∀ c ∈ dev, 0 ≤ c ∧ c < (b.up.length : Int)) (m : List Bool) :
    applyUSLoop b.up.length (b.planGeneric dev) m = applyGenericLoop b.up.length (b.planGeneric dev) m := by
  rw [planGeneric_eq]
  split
  · rfl
  · exact applyUS_blocks _ hn _ _ (blocks_range _ _ (diff_range b dev hdev) _) _

/-- ChMaskCntl 7: the 125 kHz channels off, 64..71 from the mask -/
theorem applyUS_seven (n : Nat) (mask : BitVec 16) (ps : List Plan) (m : List Bool) (hm : 72 ≤ m.length) :
    applyUSLoop n ({ cntl := 7, mask := mask } :: ps) m = applyUSLoop n ps ((List.range m.length).map fun i =>
      if i < 64 then false else if i < 72 then mask.getLsbD (i - 64) else m.getD i false) := by
  simp only [applyUSLoop]
  rw [if_neg (Nat.not_lt.mpr hm)]
  rfl

def maskB (en : List Int) (k : Int) : BitVec 16 :=
  en.foldl (fun acc ec => if ec ≥ k * 16 && ec < (k + 1) * 16 then acc ||| BitVec.ofNat 16 (2 ^ (ec % 16).toNat) else acc) 0

theorem planB_eq (en : List Int) :
    planB en = { cntl := 7, mask := en.foldl (fun acc c => if c ≥ 64 then acc ||| BitVec.ofNat 16 (2 ^ (c % 16).toNat) else acc) 0 }
      :: (blocks (en.filter (· < 64)) (-1)).map (payload (maskB en)) := by
  have hl : ∀ (l : List Int) (cur : Int), planB.loop en l cur = (blocks (l.filter (· < 64)) cur).map (payload (maskB en)) := by
    intro l
    induction l with
    | nil => intro cur; rfl
    | cons c cs ih =>
      intro cur
      by_cases h : c ≥ 64
      · rw [planB.loop, if_pos h, ih, List.filter_cons_of_neg (by simpa using h)]
      · rw [planB.loop, if_neg h, List.filter_cons_of_pos (by simpa using h), blocks]
        split <;> simp only [ih, List.map_cons, payload, maskB]
  rw [planB, hl]

theorem maskB_bit (en : List Int) (K i : Nat) (hi : i < 16) :
    (maskB en K).getLsbD i = en.contains ((16 * K + i : Nat) : Int) := by
  rw [Bool.eq_iff_iff, maskB, block_bit _ _ K i hi, List.contains_iff_mem]
  · have h1 : ((16 * K + i : Nat) : Int) ≥ (K : Int) * 16 := by omega
    have h2 : ((16 * K + i : Nat) : Int) < ((K : Int) + 1) * 16 := by omega
    simp only [Bool.and_eq_true, decide_eq_true_eq, h1, h2, and_true]
  · intro c _ hp
    simpa only [Bool.and_eq_true, decide_eq_true_eq] using hp

theorem tbit_nocustom (b : BandState) (dev : List Int) (hnc : ∀ ch ∈ b.up, ch.custom = false) (j : Nat) :
    tbit b dev j = b.enabledIdx.contains (j : Int) := by
  have : customAt b.up j = false := by
    rw [customAt, List.getD_eq_getElem?_getD]
    cases h : b.up[(j : Int).toNat]? with
    | none => rfl
    | some ch => exact hnc ch (List.mem_of_getElem? h)
  rw [tbit_eq, this]; simp

/-- the alternative US915 / AU915 plan reaches the network's enabled set from ANY device set -/
theorem planB_apply (b : BandState) (dev : List Int) (hn : b.up.length = 72) (hnc : ∀ ch ∈ b.up, ch.custom = false) :
    applyUSLoop 72 (planB (sortInts b.enabledIdx)) (devMask 72 dev) = ok (targetMask b dev) := by
  have hen : ∀ c ∈ sortInts b.enabledIdx, 0 ≤ c ∧ c < ((72 : Nat) : Int) := fun c hc => by
    have := enabledIdx_range b c (mem_sortInts.mp hc)
    omega
  have hlow : ∀ c ∈ (sortInts b.enabledIdx).filter (· < 64), 0 ≤ c ∧ c < ((72 : Nat) : Int) :=
    fun c hc => hen c (List.mem_filter.mp hc).1
  have hlen := devMask_length 72 dev
  rw [planB_eq, applyUS_seven _ _ _ _ (by omega), applyUS_blocks 72 (by omega) _ _ (blocks_range _ _ hlow _), targetMask, hn,
    List.map_congr_left fun j _ => tbit_nocustom b dev hnc j]
  refine apply_plan (by omega) _ (fun j hj => by rw [contains_enabledIdx, List.getElem?_eq_none (by omega)])
    (fun K i hi => (maskB_bit _ K i hi).trans (Bool.eq_iff_iff.mpr (by simp only [List.contains_iff_mem, mem_sortInts])))
    hlow (by simp [hlen]) fun j hj hmem => ?_
  rw [hlen, getD_map_range hj]
  by_cases h64 : j < 64
  · -- below 64 everything is off, and a channel the list does not mention is not enabled
    rw [if_pos h64]
    refine (Bool.eq_false_iff.mpr fun h => hmem (List.mem_filter.mpr ⟨?_, by simp; omega⟩)).symm
    exact mem_sortInts.mpr (List.contains_iff_mem.mp h)
  · -- 64..71 come from the first payload's mask: the enabled channels from 64 on, all of which lie in block 4
    rw [if_neg h64, if_pos hj, Bool.eq_iff_iff, block_bit _ _ 4 (j - 64) (by omega), mem_sortInts, List.contains_iff_mem,
      show 16 * 4 + (j - 64) = j by omega]
    · exact and_iff_left (by omega)
    · intro c hc h
      have := (hen c hc).2
      omega

end LW.PlanProofs
