/-
  Round to nearest, ties to even, and what a rounding to a grid of 1/K cannot do.  Core Lean only; used by the binary64
  analyses of C17 (Proofs/Float) and of C20's `math.Ceil` (Proofs/Misc).
-/
import LW.Model.Backend
namespace LW.Backend

theorem rne_bounds (a b : Nat) (hb : 0 < b) : 2 * (rne a b * b) ≤ 2 * a + b ∧ 2 * a ≤ 2 * (rne a b * b) + b := by
  have hdm := Nat.div_add_mod a b
  have hr := Nat.mod_lt a hb
  unfold rne
  simp only
  generalize a / b = q at *
  generalize a % b = r at *
  have e : (q + 1) * b = b * q + b := by rw [Nat.add_mul, Nat.one_mul, Nat.mul_comm]
  have e' := Nat.mul_comm q b
  split
  · omega
  · split
    · omega
    · split <;> omega

/-- the rounding step written out in `fdivCeil` (Model/Misc) is `rne` -/
theorem fdiv_round_eq_rne (x d : Nat) :
    (if 2 * (x % d) > d ∨ (2 * (x % d) == d) = true ∧ (x / d % 2 == 1) = true then x / d + 1 else x / d) = rne x d := by
  unfold rne
  simp only [beq_iff_eq]
  by_cases h1 : 2 * (x % d) < d
  · rw [if_neg (by omega), if_pos h1]
  · by_cases h2 : 2 * (x % d) > d
    · rw [if_pos (Or.inl h2), if_neg h1, if_pos h2]
    · by_cases h3 : x / d % 2 = 0
      · rw [if_neg (by omega), if_neg h1, if_neg h2, if_pos h3]
      · rw [if_pos (Or.inr ⟨by omega, by omega⟩), if_neg h1, if_neg h2, if_neg h3]

end LW.Backend

namespace LW

/-- `m / K` is the quotient `n / d` rounded to a nearest multiple of `1 / K` (`hi`, `lo`: at most `1 / (2K)` above or below,
cleared of denominators), and the grid is fine: `1 / K < 2 / d` -/
structure Rounded (n d m K : Nat) : Prop where
  pos : 0 < d
  fine : d < 2 * K
  hi : 2 * (m * d) ≤ 2 * (n * K) + d
  lo : 2 * (n * K) ≤ 2 * (m * d) + d

section
variable {n d m K : Nat}

theorem mul_lt_cross {x y a b t : Nat} (h : t * a ≤ x) (hc : y < t * b) : y * a + a ≤ x * b := by
  have h1 := Nat.mul_le_mul_right b h
  have h2 := Nat.mul_le_mul_right a (Nat.succ_le_of_lt hc)
  rw [Nat.succ_mul, Nat.mul_right_comm] at h2
  omega

theorem mul_gt_cross {x y a b t : Nat} (h : x ≤ t * a) (hc : t * b < y) : x * b + a ≤ y * a := by
  have h1 := Nat.mul_le_mul_right b h
  have h2 := Nat.mul_le_mul_right a (Nat.succ_le_of_lt hc)
  rw [Nat.succ_mul, Nat.mul_right_comm] at h2
  omega

/-- Such a rounding never carries the quotient across an integer t: t is a multiple of 1/K, and n/d is either t or at
least 1/d > 1/(2K) away from it. -/
theorem Rounded.le_iff (h : Rounded n d m K) (t : Nat) : t * K ≤ m ↔ t * d ≤ n := by
  obtain ⟨hd, hK, h1, h2⟩ := h
  exact ⟨fun h => Nat.le_of_not_lt fun hc => by have := mul_lt_cross h hc; omega,
    fun h => Nat.le_of_not_lt fun hc => by have := mul_lt_cross h hc; omega⟩

theorem Rounded.ge_iff (h : Rounded n d m K) (t : Nat) : m ≤ t * K ↔ n ≤ t * d := by
  obtain ⟨hd, hK, h1, h2⟩ := h
  exact ⟨fun h => Nat.le_of_not_lt fun hc => by have := mul_gt_cross h hc; omega,
    fun h => Nat.le_of_not_lt fun hc => by have := mul_gt_cross h hc; omega⟩

theorem Rounded.floor (h : Rounded n d m K) : m / K = n / d := by
  have hK : 0 < K := by have := h.fine; have := h.pos; omega
  apply Nat.le_antisymm
  · exact (Nat.le_div_iff_mul_le h.pos).2 ((h.le_iff _).1 (Nat.div_mul_le_self m K))
  · exact (Nat.le_div_iff_mul_le hK).2 ((h.le_iff _).2 (Nat.div_mul_le_self n d))

theorem ceil_le_iff (x c t : Nat) (hc : 0 < c) : (x + c - 1) / c ≤ t ↔ x ≤ t * c := by
  rw [Nat.div_le_iff_le_mul_add_pred hc, Nat.mul_comm]; omega

theorem Rounded.ceil (h : Rounded n d m K) : (m + K - 1) / K = (n + d - 1) / d := by
  have hK : 0 < K := by have := h.fine; have := h.pos; omega
  apply Nat.le_antisymm
  · exact (ceil_le_iff _ _ _ hK).2 ((h.ge_iff _).2 ((ceil_le_iff _ _ _ h.pos).1 (Nat.le_refl _)))
  · exact (ceil_le_iff _ _ _ h.pos).2 ((h.ge_iff _).1 ((ceil_le_iff _ _ _ hK).1 (Nat.le_refl _)))

end

end LW
