/-
  LW.Proofs.FragRecover — the algebra of XOR-selections (C19). `xorSelected size l rows` is additive in the rows (the encoder is
  linear) and in the selection vector (c · (V · R) = (c · V) · R over GF(2): XOR-combining received fragments gives the fragment
  of the combined selection vectors; when that combination is a unit vector it is a data fragment).
-/
import LW.Proofs.Frag
namespace LW.FragProofs

/-! The vocabulary of `C19_linear`, `C19_fragment_selection`, `C19_recovery`, `C19_recovery_block`. -/

def zipXor : List Bytes → List Bytes → List Bytes
  | a :: as, b :: bs => xorBytes a b :: zipXor as bs
  | _, _ => []

/-- the accumulating loop of `xorSelected` from an arbitrary start -/
def foldSel (acc : Bytes) (line : List Bool) (rows : List Bytes) : Bytes :=
  (line.zip rows).foldl (fun acc (p : Bool × Bytes) => if p.1 then xorBytes acc p.2 else acc) acc

/-- selection vectors add pointwise (GF(2)) -/
def xorVec (a b : List Bool) : List Bool := List.zipWith Bool.xor a b

/-- the combination of the selection vectors `vs` chosen by `c` -/
def combVec (w : Nat) (c : List Bool) (vs : List (List Bool)) : List Bool :=
  (c.zip vs).foldl (fun acc (p : Bool × List Bool) => if p.1 then xorVec acc p.2 else acc) (List.replicate w false)

/-- the selection vector of data fragment j among w -/
def unitVec (w j : Nat) : List Bool := (List.replicate w false).set j true

/-- the selection vector of fragment t (0-based) of an encoding of w data fragments -/
def selOf (line : Nat → Nat → Option (List Bool)) (w t : Nat) : Option (List Bool) :=
  if t < w then some (unitVec w t) else line (t - w + 1) w

theorem selOf_data {line : Nat → Nat → Option (List Bool)} {w t : Nat} (h : t < w) : selOf line w t = some (unitVec w t) := if_pos h

theorem selOf_parity (line : Nat → Nat → Option (List Bool)) (w y : Nat) : selOf line w (w + y) = line (y + 1) w := by
  rw [selOf, if_neg (by omega), Nat.add_sub_cancel_left]

theorem rowsOf_xor (k size : Nat) (a b : Bytes) : rowsOf k size (xorBytes a b) = zipXor (rowsOf k size a) (rowsOf k size b) := by
  induction k generalizing a b with
  | zero => rfl
  | succ k ih => simp only [rowsOf, zipXor, xorBytes_take, xorBytes_drop, ih]

theorem xorSelected_eq (size : Nat) (l : List Bool) (rows : List Bytes) : xorSelected size l rows = foldSel (zeros size) l rows := rfl

theorem foldSel_cons (acc : Bytes) (s : Bool) (l : List Bool) (r : Bytes) (rows : List Bytes) :
    foldSel acc (s :: l) (r :: rows) = foldSel (if s then xorBytes acc r else acc) l rows := rfl

theorem foldSel_zipXor (l : List Bool) (ra rb : List Bytes) (accA accB : Bytes) (hl : ra.length = rb.length) :
    foldSel (xorBytes accA accB) l (zipXor ra rb) = xorBytes (foldSel accA l ra) (foldSel accB l rb) := by
  induction l generalizing ra rb accA accB with
  | nil => rfl
  | cons s ss ih =>
    cases ra with
    | nil => cases rb with
      | nil => rfl
      | cons _ _ => simp at hl
    | cons x xs => cases rb with
      | nil => simp at hl
      | cons y ys =>
        simp only [zipXor, foldSel_cons]
        cases s
        · exact ih xs ys accA accB (by simpa using hl)
        · rw [← ih xs ys _ _ (by simpa using hl)]
          simp only [if_true]
          ac_rfl

theorem xorSelected_linear (size : Nat) (l : List Bool) (ra rb : List Bytes) (hl : ra.length = rb.length) :
    xorSelected size l (zipXor ra rb) = xorBytes (xorSelected size l ra) (xorSelected size l rb) := by
  rw [xorSelected_eq, xorSelected_eq, xorSelected_eq, ← foldSel_zipXor l ra rb _ _ hl, xorBytes_self, zeros_length]

theorem zipXor_eq_zipWith (a b : List Bytes) : zipXor a b = List.zipWith xorBytes a b := by
  induction a generalizing b with
  | nil => rfl
  | cons x xs ih => cases b with
    | nil => rfl
    | cons y ys => simp [zipXor, ih]

theorem zipXor_append (a1 a2 b1 b2 : List Bytes) (h : a1.length = b1.length) : zipXor (a1 ++ a2) (b1 ++ b2) = zipXor a1 b1 ++ zipXor a2 b2 := by
  simp only [zipXor_eq_zipWith, List.zipWith_append h]

theorem map_zipXor {α} (ls : List α) (f g : α → Bytes) : zipXor (ls.map f) (ls.map g) = ls.map fun l => xorBytes (f l) (g l) := by
  rw [zipXor_eq_zipWith, List.zipWith_map, List.zipWith_self]

theorem foldSel_length (acc : Bytes) (l : List Bool) (rows : List Bytes) (size : Nat) (ha : acc.length = size)
    (hr : ∀ r ∈ rows, r.length = size) : (foldSel acc l rows).length = size := by
  induction l generalizing acc rows with
  | nil => simpa [foldSel] using ha
  | cons s ss ih =>
    cases rows with
    | nil => simpa [foldSel] using ha
    | cons r rs =>
      have hr' : ∀ r ∈ rs, r.length = size := fun x hx => hr x (List.mem_cons_of_mem _ hx)
      cases s
      · exact ih acc rs ha hr'
      · exact ih _ rs (by simp [ha, hr r (List.mem_cons_self ..)]) hr'

/-- rows and accumulators of one length: a row selected twice must cancel -/
theorem foldSel_add (size : Nat) (a b : List Bool) (rows : List Bytes) (accA accB : Bytes) (hab : a.length = b.length)
    (hA : accA.length = size) (hB : accB.length = size) (hr : ∀ r ∈ rows, r.length = size) :
    foldSel (xorBytes accA accB) (xorVec a b) rows = xorBytes (foldSel accA a rows) (foldSel accB b rows) := by
  induction rows generalizing a b accA accB with
  | nil => simp [foldSel]
  | cons r rs ih =>
    have hr' : ∀ r ∈ rs, r.length = size := fun x hx => hr x (List.mem_cons_of_mem _ hx)
    have hrl : r.length = size := hr r (List.mem_cons_self ..)
    cases a with
    | nil =>
      cases b with
      | nil => simp [foldSel, xorVec]
      | cons _ _ => simp at hab
    | cons x xs =>
      cases b with
      | nil => simp at hab
      | cons y ys =>
        have hl : xs.length = ys.length := by simpa using hab
        simp only [xorVec, List.zipWith_cons_cons, foldSel_cons]
        rw [← ih xs ys _ _ hl (by cases x <;> simp [hA, hrl]) (by cases y <;> simp [hB, hrl]) hr']
        congr 1
        cases x <;> cases y <;> simp only [Bool.xor_false, Bool.xor_true, Bool.not_false, Bool.not_true, Bool.false_eq_true, if_false, if_true]
        · ac_rfl
        · ac_rfl
        · rw [show xorBytes (xorBytes accA r) (xorBytes accB r) = xorBytes (xorBytes accA accB) (xorBytes r r) by ac_rfl,
            xorBytes_self, xorBytes_zeros_right _ _ (by simp [hA, hB, hrl])]

theorem foldSel_false (acc : Bytes) (w : Nat) (rows : List Bytes) : foldSel acc (List.replicate w false) rows = acc := by
  induction rows generalizing w with
  | nil => simp [foldSel]
  | cons r rs ih =>
    cases w with
    | zero => simp [foldSel]
    | succ w =>
      exact ih w

theorem xorSelected_add (size : Nat) (a b : List Bool) (rows : List Bytes) (hab : a.length = b.length)
    (hr : ∀ r ∈ rows, r.length = size) :
    xorSelected size (xorVec a b) rows = xorBytes (xorSelected size a rows) (xorSelected size b rows) := by
  have := foldSel_add size a b rows (zeros size) (zeros size) hab (by simp) (by simp) hr
  rwa [xorBytes_self, zeros_length] at this

theorem xorVec_length (a b : List Bool) (h : a.length = b.length) : (xorVec a b).length = a.length := by
  simp [xorVec, h]

/-- c · (V · R) = (c · V) · R from an arbitrary accumulated vector -/
theorem comb_fold (size w : Nat) (rows : List Bytes) (hr : ∀ r ∈ rows, r.length = size)
    (c : List Bool) (vs : List (List Bool)) (hv : ∀ v ∈ vs, v.length = w) (accV : List Bool) (ha : accV.length = w) :
    foldSel (xorSelected size accV rows) c (vs.map (fun v => xorSelected size v rows)) =
      xorSelected size ((c.zip vs).foldl (fun acc (p : Bool × List Bool) => if p.1 then xorVec acc p.2 else acc) accV) rows := by
  induction c generalizing vs accV with
  | nil => simp [foldSel]
  | cons s ss ih =>
    cases vs with
    | nil => simp [foldSel]
    | cons v vr =>
      have hv' : ∀ v ∈ vr, v.length = w := fun x hx => hv x (List.mem_cons_of_mem _ hx)
      have hvl : v.length = w := hv v (List.mem_cons_self ..)
      rw [List.map_cons, foldSel_cons, List.zip_cons_cons, List.foldl_cons]
      cases s
      · exact ih vr hv' accV ha
      · rw [← xorSelected_add size accV v rows (by omega) hr]
        exact ih vr hv' (xorVec accV v) (by rw [xorVec_length _ _ (by omega)]; exact ha)

theorem comb_assoc (size w : Nat) (rows : List Bytes) (hr : ∀ r ∈ rows, r.length = size)
    (c : List Bool) (vs : List (List Bool)) (hv : ∀ v ∈ vs, v.length = w) :
    xorSelected size c (vs.map (fun v => xorSelected size v rows)) = xorSelected size (combVec w c vs) rows := by
  have := comb_fold size w rows hr c vs hv (List.replicate w false) (by simp)
  rw [xorSelected_eq size (List.replicate w false), foldSel_false] at this
  exact this

theorem foldSel_unit (acc : Bytes) (w j : Nat) (rows : List Bytes) (r : Bytes) (hj : rows[j]? = some r) (hw : rows.length ≤ w) :
    foldSel acc (unitVec w j) rows = xorBytes acc r := by
  induction rows generalizing w j with
  | nil => simp at hj
  | cons x xs ih =>
    cases w with
    | zero => simp at hw
    | succ w =>
      cases j with
      | zero =>
        simp only [List.getElem?_cons_zero, Option.some.injEq] at hj
        subst hj
        rw [unitVec, List.replicate_succ, List.set_cons_zero, foldSel_cons, if_pos rfl]
        exact foldSel_false _ w xs
      | succ j =>
        rw [unitVec, List.replicate_succ, List.set_cons_succ, foldSel_cons, if_neg Bool.false_ne_true]
        exact ih w j hj (by simpa using hw)

theorem xorSelected_unit (size w j : Nat) (rows : List Bytes) (r : Bytes) (hj : rows[j]? = some r) (hw : rows.length ≤ w)
    (hl : r.length = size) : xorSelected size (unitVec w j) rows = r := by
  rw [xorSelected_eq, foldSel_unit _ w j rows r hj hw, xorBytes_zeros_left r size (by omega)]

theorem recover (size w : Nat) (rows : List Bytes) (hw : rows.length = w) (hr : ∀ r ∈ rows, r.length = size)
    (c : List Bool) (vs : List (List Bool)) (hv : ∀ v ∈ vs, v.length = w) (j : Nat) (r : Bytes) (hj : rows[j]? = some r)
    (hc : combVec w c vs = unitVec w j) :
    xorSelected size c (vs.map (fun v => xorSelected size v rows)) = r := by
  rw [comb_assoc size w rows hr c vs hv, hc]
  exact xorSelected_unit size w j rows r hj (by omega) (hr r (List.mem_of_getElem? hj))

theorem unitVec_length (w j : Nat) : (unitVec w j).length = w := by simp [unitVec]

theorem selOf_length (line : Nat → Nat → Option (List Bool)) (w t : Nat) (v : List Bool)
    (hlen : ∀ n l, line n w = some l → l.length = w) (h : selOf line w t = some v) : v.length = w := by
  unfold selOf at h
  split at h
  · cases h; exact unitVec_length w t
  · exact hlen _ _ h

end LW.FragProofs
