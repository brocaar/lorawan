/-
  LW.Proofs.FrameRT — frame decode→encode (C08) and encode→decode (C01) on the model. Both directions read the decoders
  on the parts of their input: a frame is an MHDR byte, a body and four MIC bytes; a MACPayload is its `7 + FOptsLen`
  header bytes, then FPort and FRMPayload.  Last: when the item encoders answer (`encItems_ok`, `frmEnc_ok`; C01_encode_total).
-/
import LW.Proofs.Wire
import LW.Proofs.MacSpec
import LW.Spec.Frame
namespace LW.FrameRT
open Outcome MacRT Bits

theorem toNat_mhdrEnc (mt mj : Byte) (h : mt.toNat ≤ 7) : (mhdrEnc mt mj).toNat = mj.toNat % 4 + 32 * mt.toNat := by
  have hj := toNat_and_mask mj 3#8 2 rfl
  rw [mhdrEnc, BitVec.or_comm, toNat_or_shl _ mt 5 (by omega) (by omega) (by omega), hj]

theorem mhdr_dec_enc (mt mj : Byte) (h1 : mt.toNat ≤ 7) (h2 : mj.toNat ≤ 3) :
    (mhdrEnc mt mj) >>> 5 = mt ∧ (mhdrEnc mt mj) &&& 3#8 = mj := by
  have hm := toNat_mhdrEnc mt mj h1
  constructor <;> apply BitVec.eq_of_toNat_eq
  · rw [toNat_shr]; omega
  · rw [toNat_and_mask _ _ 2 rfl]; omega

theorem mhdr_canonical (b : Byte) (hrfu : b &&& 0x1c#8 = 0#8) : mhdrEnc (b >>> 5) (b &&& 3#8) = b := by
  have h0 : b.toNat / 4 % 8 = 0 := by rw [← toNat_and_shr b 0x1c#8 2 3 rfl, hrfu]; rfl
  apply BitVec.eq_of_toNat_eq
  rw [toNat_mhdrEnc _ _ (by rw [toNat_shr]; omega), toNat_shr, toNat_and_mask b _ 2 rfl]
  omega

/-- `q` is the bit FPending and ClassB share -/
theorem fctrl_byte : ∀ (a r k q : Bool) (l : Fin 16),
    FCtrl.enc { adr := a, adrAckReq := r, ack := k, fPending := q, classB := q, fOptsLen := BitVec.ofNat 8 l.val } =
      ok (byteOfNat (l.val + 16 * Spec.b2n q + 32 * Spec.b2n k + 64 * Spec.b2n r + 128 * Spec.b2n a)) ∧
    FCtrl.dec (byteOfNat (l.val + 16 * Spec.b2n q + 32 * Spec.b2n k + 64 * Spec.b2n r + 128 * Spec.b2n a)) =
      { adr := a, adrAckReq := r, ack := k, fPending := q, classB := q, fOptsLen := BitVec.ofNat 8 l.val } := by decide

theorem fctrl_canonical (c : Byte) : FCtrl.enc { FCtrl.dec c with fOptsLen := byteOfNat (c &&& 0x0f#8).toNat } = ok c := by
  have hl : (c &&& 0x0f#8).toNat = c.toNat % 16 := toNat_and_15 c
  have h := (fctrl_byte (bit c 7) (bit c 6) (bit c 5) (bit c 4) ⟨(c &&& 0x0f#8).toNat, by omega⟩).1
  -- a byte is the sum of its low nibble and its four high bits
  rw [show FCtrl.enc { FCtrl.dec c with fOptsLen := byteOfNat (c &&& 0x0f#8).toNat } = _ from h, ← eq_byteOfNat (x := c)]
  simp only [MacSpec.b2n_bit, hl]
  omega

theorem fctrl_dec_enc {c : FCtrl} {b : Byte} (h : c.enc = ok b) :
    FCtrl.dec b = { adr := c.adr, adrAckReq := c.adrAckReq, ack := c.ack, fPending := c.classB || c.fPending,
                    classB := c.classB || c.fPending, fOptsLen := c.fOptsLen } ∧ (b &&& 0x0f#8) = c.fOptsLen := by
  obtain ⟨a, r, k, p, cb, l⟩ := c
  have hl : ¬ l.toNat > 15 := by simp only [FCtrl.enc, ite_err_eq_ok] at h; exact h.1
  obtain ⟨he, hd⟩ := fctrl_byte a r k (cb || p) ⟨l.toNat, by omega⟩
  simp only [FCtrl.enc, Bool.or_self, BitVec.ofNat_toNat, BitVec.setWidth_eq] at he h
  rw [he] at h
  cases ok.inj h
  simp only [BitVec.ofNat_toNat, BitVec.setWidth_eq] at hd
  exact ⟨hd, congrArg FCtrl.fOptsLen hd⟩

theorem itemsBytes_of_ok {is : List Item} {b : Bytes} (h : encItems is = ok b) : Spec.itemsBytes is = b := by
  rw [Spec.itemsBytes, h]

theorem encItems_data (b : Bytes) : encItems [.data b] = ok b := by
  simp [encItems, Item.enc]

/-- `FHDR.MarshalBinary` once FOpts are bytes. The length byte is `uint8(len)`: what is refused is 16 … 255 modulo 256 -/
theorem fhdr_enc_eq {a n : BitVec 32} {c : FCtrl} {is : List Item} {ob : Bytes} (ho : encItems is = ok ob) :
    FHDR.enc { devAddr := a, fCtrl := c, fCnt := n, fOpts := is } =
      if ob.length % 256 > 15 then err
      else FCtrl.enc { c with fOptsLen := byteOfNat ob.length } >>= fun b => ok (leBytes 4 a.toNat ++ [b] ++ leBytes 2 n.toNat ++ ob) := by
  simp only [FHDR.enc, ho, ok_bind, byteOfNat, BitVec.toNat_ofNat]

theorem exists_frame (data : Bytes) (h : 5 ≤ data.length) : ∃ m body mic, data = [m] ++ body ++ mic ∧ mic.length = 4 := by
  obtain ⟨pre, mic, rfl, hp⟩ := exists_append_of_le (show data.length - 4 ≤ data.length by omega)
  rw [List.length_append] at h hp
  cases pre with
  | nil => simp only [List.length_nil] at h hp; omega
  | cons m body => exact ⟨m, body, mic, rfl, by simp only [List.length_cons] at h hp; omega⟩

theorem fhdr_dec_parts (prev : FHDR) (a n : BitVec 32) (c : Byte) (ob : Bytes) :
    FHDR.dec prev (leBytes 4 a.toNat ++ [c] ++ leBytes 2 n.toNat ++ ob) =
      ok { devAddr := a, fCtrl := FCtrl.dec c, fCnt := BitVec.ofNat 32 (n.toNat % 65536),
           fOpts := if ob.length > 0 then [.data ob] else [] } := by
  have hl : (leBytes 4 a.toNat ++ [c] ++ leBytes 2 n.toNat ++ ob).length = 7 + ob.length := by simp; omega
  -- four and two bytes are literal lists: `take`, `drop` and `getD` at the literal offsets compute
  rw [FHDR.dec, hl, if_neg (by omega)]
  simp only [gt_iff_lt, Nat.lt_add_right_iff_pos]
  rw [show (leBytes 4 a.toNat ++ [c] ++ leBytes 2 n.toNat ++ ob).take 4 = leBytes 4 a.toNat from rfl,
    show ((leBytes 4 a.toNat ++ [c] ++ leBytes 2 n.toNat ++ ob).drop 5).take 2 = leBytes 2 n.toNat from rfl,
    ofNat_leNat_leBytes_toNat (k := 4) a (by omega), leNat_leBytes]
  rfl

section macDec
variable {ph : FHDR} {pp : Option Byte} {pf : List Item} {hd : Bytes} {hdr : FHDR}
  (hl : hd.length = 7 + ((hd.getD 4 0) &&& 0x0f#8).toNat) (hdec : FHDR.dec ph hd = ok hdr)
include hl hdec

theorem macDec_hdr : macDec ph pp pf hd = ok (.mac hdr none []) := by
  have h1 : ¬ hd.length < 7 := by omega
  have h2 : ¬ hd.length < 7 + ((hd.getD 4 0) &&& 0x0f#8).toNat := by omega
  have h3 : ¬ hd.length > 7 + ((hd.getD 4 0) &&& 0x0f#8).toNat := by omega
  have h4 : ¬ hd.length > 7 + ((hd.getD 4 0) &&& 0x0f#8).toNat + 1 := by omega
  simp only [macDec, h1, h2, h3, h4, if_false, false_and, List.take_of_length_le (Nat.le_of_eq hl), hdec, ok_bind]

theorem macDec_hdr_port (p : Byte) (frm : Bytes) :
    macDec ph pp pf (hd ++ p :: frm) =
      if p = 0 ∧ hd.length > 7 then err else ok (.mac hdr (some p) (if frm.length > 0 then [.data frm] else [])) := by
  have h4 : (hd ++ p :: frm).getD 4 0 = hd.getD 4 0 := getD_append_of_lt (by omega) 0
  have hp : (hd ++ p :: frm).getD hd.length 0 = p := by simp
  have hfrm : (hd ++ p :: frm).drop (hd.length + 1) = frm := by simp
  simp only [macDec, h4, ← hl, List.take_left, hdec, ok_bind, hp, hfrm, List.length_append, List.length_cons]
  by_cases hf : frm.length > 0 <;> simp +arith [hf, hl]

end macDec

/-- a decoded body is glued from the right, one field per step (`fields3_canonical` is the case of three fields that fill `l`) -/
theorem field_canonical (l : Bytes) (a k w : Nat) (hl : a + k ≤ l.length) (hw : 256 ^ k ≤ 2 ^ w) :
    leBytes k (BitVec.ofNat w (leNat ((l.drop a).take k))).toNat ++ l.drop (a + k) = l.drop a := by
  rw [leBytes_toNat_ofNat_leNat (by simp; omega) hw, take_drop_append_drop]

theorem fhdr_canonical (hd : Bytes) (prev h : FHDR) (hl : hd.length = 7 + ((hd.getD 4 0) &&& 0x0f#8).toNat)
    (hdec : FHDR.dec prev hd = ok h) : h.enc = ok hd := by
  have hle : ((hd.getD 4 0) &&& 0x0f#8).toNat ≤ 15 := by rw [Bits.toNat_and_15]; omega
  simp only [FHDR.dec, ite_err_eq_ok, ok.injEq] at hdec
  obtain ⟨_, rfl⟩ := hdec
  have hopts : encItems (if hd.length > 7 then [Item.data (hd.drop 7)] else []) = ok (hd.drop 7) := by
    split
    · exact encItems_data _
    · rw [List.drop_of_length_le (by omega)]; rfl
  have hlen : (hd.drop 7).length = ((hd.getD 4 0) &&& 0x0f#8).toNat := by rw [List.length_drop]; omega
  rw [fhdr_enc_eq hopts, if_neg (by omega), hlen, fctrl_canonical, ok_bind, leBytes_toNat_ofNat_leNat (by simp; omega) (by decide)]
  -- what is written is `hd.take 4`, `hd[4:5]`, `hd[5:7]` and `hd.drop 7`: glued from the right they are `hd`
  rw [← take_one_drop hd 4 (by omega), List.append_assoc, List.append_assoc, field_canonical hd 5 2 32 (by omega) (by decide),
    take_drop_append_drop hd 4 1, List.take_append_drop]

theorem mac_canonical (body : Bytes) (pl : MacPL) (hdec : macDec {} none [] body = ok pl) : pl.enc = ok body := by
  have hinv := hdec
  simp only [macDec, ite_err_eq_ok, bind_eq_ok] at hinv
  obtain ⟨h7, hfol, hdr, hh, -⟩ := hinv
  -- `body` is its `7 + FOptsLen` header bytes `hd` and what follows them
  generalize hF : ((body.getD 4 0) &&& 0x0f#8).toNat = fol at hfol hh
  obtain ⟨hd, rest, rfl, hlen⟩ := exists_append_of_le (show 7 + fol ≤ body.length by omega)
  rw [List.take_left' hlen] at hh
  have hl : hd.length = 7 + ((hd.getD 4 0) &&& 0x0f#8).toNat := by
    rw [hlen, ← hF, getD_append_of_lt (by omega)]
  have henc := fhdr_canonical hd {} hdr hl hh
  cases rest with
  | nil =>
    rw [List.append_nil] at hdec ⊢
    rw [macDec_hdr hl hh] at hdec
    cases ok.inj hdec
    simp [MacPL.enc, macEnc, henc]
  | cons p frm =>
    rw [macDec_hdr_port hl hh] at hdec
    simp only [ite_err_eq_ok, ok.injEq] at hdec
    obtain ⟨hchk, rfl⟩ := hdec
    have hopts : ¬ (hdr.fOpts.length != 0 ∧ p == 0) := by
      simp only [FHDR.dec, ite_err_eq_ok, ok.injEq] at hh
      obtain ⟨_, rfl⟩ := hh
      rintro ⟨h1, h2⟩
      refine hchk ⟨by simpa using h2, ?_⟩
      split at h1
      · assumption
      · simp at h1
    simp only [MacPL.enc, macEnc, henc, ok_bind, if_neg hopts]
    by_cases hf : frm.length > 0
    · simp [hf, frmEnc, Item.isCmd, Item.enc]
    · simp [frmEnc, List.length_eq_zero_iff.mp (Nat.eq_zero_of_not_pos hf)]

theorem fields3_canonical (l : Bytes) (k1 k2 k3 w1 w2 w3 : Nat) (hl : l.length = k1 + k2 + k3)
    (h1 : 256 ^ k1 ≤ 2 ^ w1) (h2 : 256 ^ k2 ≤ 2 ^ w2) (h3 : 256 ^ k3 ≤ 2 ^ w3) :
    leBytes k1 (BitVec.ofNat w1 (leNat (l.take k1))).toNat ++ leBytes k2 (BitVec.ofNat w2 (leNat ((l.drop k1).take k2))).toNat ++
      leBytes k3 (BitVec.ofNat w3 (leNat (l.drop (k1 + k2)))).toNat = l := by
  rw [leBytes_toNat_ofNat_leNat (by simp; omega) h1, leBytes_toNat_ofNat_leNat (k := k3) (by simp; omega) h3, List.append_assoc,
    field_canonical l k1 k2 w2 (by omega) h2, List.take_append_drop]

theorem phy_canonical (data : Bytes) (f : PHY) (hdec : PHY.dec data = ok f) (hrfu : (data.getD 0 0) &&& 0x1c#8 = 0#8) :
    f.enc = ok data := by
  by_cases h5 : data.length < 5
  · simp [PHY.dec, h5] at hdec
  obtain ⟨m, body, mic, rfl, hmic⟩ := exists_frame data (by omega)
  have hm : mhdrEnc (m >>> 5) (m &&& 3#8) = m := mhdr_canonical m (by simpa using hrfu)
  -- one disjunct per payload kind: its MType, its length, and the frame in terms of `m`, `body`, `mic`
  simp only [PHY.dec, List.cons_append, List.nil_append, List.length_cons, List.length_append, hmic, BitVec.ofNat_eq_ofNat,
    List.getD_eq_getElem?_getD, Nat.lt_add_left_iff_pos, Nat.zero_lt_succ, getElem?_pos, List.getElem_cons_zero, Option.getD_some,
    beq_iff_eq, Nat.reduceSubDiff, List.drop_succ_cons, List.drop_zero, List.take_left', bne_iff_ne, ne_eq, List.drop_left', ite_not,
    List.getElem_cons_succ, List.drop_one, ite_eq_ok, reduceCtorEq, and_false, Nat.not_lt, Nat.le_add_left, ok.injEq, or_false,
    not_or, bind_eq_ok, true_and, false_or] at hdec
  rcases hdec with ⟨_, hl, rfl⟩ | ⟨_, ⟨_, rfl⟩ | ⟨_, ⟨_, ⟨ht, hl, rfl⟩ | ⟨_, ht, hl, rfl⟩⟩ | ⟨_, pl, hpl, rfl⟩⟩⟩
  · -- join-request
    simp only [PHY.enc, MacPL.enc, ok_bind, hm]
    rw [fields3_canonical body 8 8 2 64 64 16 hl (by decide) (by decide) (by decide)]
  · -- join-accept, proprietary
    simp only [PHY.enc, MacPL.enc, ok_bind, hm]
  · -- rejoin-request type 0 / 2
    obtain ⟨t, rest, rfl⟩ := List.exists_cons_of_length_pos (by omega : 0 < body.length)
    simp only [List.cons_append, List.getElem_cons_zero, List.tail_cons, List.drop_succ_cons, List.length_cons] at ht hl ⊢
    have htv : ¬ (t != 0 ∧ t != 2) := by rcases ht with rfl | rfl <;> decide
    simp only [PHY.enc, MacPL.enc, if_neg htv, ok_bind, hm]
    rw [List.append_assoc [t], List.append_assoc [t], fields3_canonical rest 3 8 2 24 64 16 (by omega) (by decide) (by decide) (by decide)]
    rfl
  · -- rejoin-request type 1
    obtain ⟨t, rest, rfl⟩ := List.exists_cons_of_length_pos (by omega : 0 < body.length)
    simp only [List.cons_append, List.getElem_cons_zero, List.tail_cons, List.drop_succ_cons, List.length_cons] at ht hl ⊢
    simp only [PHY.enc, MacPL.enc, ht, hm]
    rw [List.append_assoc [1#8], List.append_assoc [1#8], fields3_canonical rest 8 8 2 64 64 16 (by omega) (by decide) (by decide) (by decide)]
    rfl
  · -- data frames
    simp only [PHY.enc, mac_canonical body pl hpl, ok_bind, hm]

theorem mac_dec_enc {ph : FHDR} {pp : Option Byte} {pf : List Item} (h : FHDR) (fPort : Option Byte) (frm : List Item) (body : Bytes)
    (henc : macEnc h fPort frm = ok body) (hopts : (Spec.itemsBytes h.fOpts).length ≤ 15) :
    macDec ph pp pf body = ok (Spec.wirePL (.mac h fPort frm)) := by
  simp only [macEnc, FHDR.enc, bind_eq_ok, ite_err_eq_ok, ok.injEq] at henc
  obtain ⟨hd, ⟨ob, hob, _, c, hc, hhd⟩, henc⟩ := henc
  have hib := itemsBytes_of_ok hob
  rw [hib] at hopts
  obtain ⟨hcd, hcl⟩ := fctrl_dec_enc hc
  -- the header bytes `hd` decode to the header as seen over the wire
  have hhdr := fhdr_dec_parts ph h.devAddr h.fCnt c ob
  rw [hcd, hhd] at hhdr
  have hl : hd.length = 7 + ob.length := by rw [← hhd]; simp; omega
  have hl' : hd.length = 7 + ((hd.getD 4 0) &&& 0x0f#8).toNat := by
    rw [hl, show hd.getD 4 0 = c by rw [← hhd]; simp, hcl]
    simp only [byteOfNat, BitVec.toNat_ofNat]; omega
  cases fPort with
  | none =>
    simp only [ite_err_eq_ok, ok.injEq, bne_iff_ne, ne_eq, Decidable.not_not, List.length_eq_zero_iff] at henc
    obtain ⟨rfl, rfl⟩ := henc
    rw [macDec_hdr hl' hhdr]
    simp [Spec.wirePL, hib, Spec.frmBytes, frmEnc]
  | some p =>
    simp only [ite_err_eq_ok, bind_eq_ok, ok.injEq] at henc
    obtain ⟨hchk, pb, hpb, rfl⟩ := henc
    have hp0 : ¬ (p = 0 ∧ hd.length > 7) := by
      rintro ⟨rfl, hpos⟩
      refine hchk ⟨?_, rfl⟩
      cases hf : h.fOpts with
      | nil => rw [hf] at hob; cases ok.inj hob; simp at hl; omega
      | cons _ _ => rfl
    rw [List.append_assoc _ [p], List.singleton_append, macDec_hdr_port hl' hhdr, if_neg hp0]
    simp [Spec.wirePL, hib, Spec.frmBytes, hpb]

theorem phy_dec_enc (f : PHY) (bs : Bytes) (henc : f.enc = ok bs) (hs : Spec.shapeOK f = true) :
    PHY.dec bs = ok (Spec.wire f) := by
  obtain ⟨mt, mj, pl, mic⟩ := f
  simp only [Spec.shapeOK, Bool.and_eq_true, beq_iff_eq, decide_eq_true_eq] at hs
  obtain ⟨⟨⟨hmic, hmt⟩, hmj⟩, hkind⟩ := hs
  cases pl with
  | none => simp at hkind
  | some pl =>
    simp only [PHY.enc, bind_eq_ok, ok.injEq] at henc
    obtain ⟨b, hb, rfl⟩ := henc
    -- in terms of the MHDR byte `m`
    obtain ⟨hmt', hmj'⟩ := mhdr_dec_enc mt mj hmt hmj
    generalize mhdrEnc mt mj = m at hmt' hmj' ⊢
    subst hmt' hmj'
    have hj (x : BitVec 64) := ofNat_leNat_leBytes_toNat (k := 8) x (by omega)
    have hc (x : BitVec 16) := ofNat_leNat_leBytes_toNat (k := 2) x (by omega)
    cases pl with
    | joinReq j d n =>
      cases ok.inj hb
      have hk : m >>> 5 = 0#8 := by simpa using hkind
      simp [PHY.dec, hmic, hk, Spec.wire, Spec.wirePL, hj, hc]
    | joinAccept ja =>
      have hk : m >>> 5 = 1#8 := by simpa using hkind
      simp [PHY.dec, hmic, hk, Spec.wire, Spec.wirePL, show ja.enc = ok b from hb]
    | data d =>
      cases ok.inj hb
      have hk : m >>> 5 = 7#8 := by simpa using hkind
      simp [PHY.dec, hmic, hk, Spec.wire, Spec.wirePL]
    | rejoin02 t nid d c =>
      have hk : m >>> 5 = 6#8 := by simpa using hkind
      simp only [MacPL.enc, ite_err_eq_ok, ok.injEq] at hb
      obtain ⟨ht, rfl⟩ := hb
      have ht' : t = 0#8 ∨ t = 2#8 := Decidable.or_iff_not_imp_left.mpr (by simpa using ht)
      have hn := ofNat_leNat_leBytes_toNat (k := 3) nid (by omega)
      simp [PHY.dec, hmic, hk, Spec.wire, Spec.wirePL, hj, hc, hn, ht']
    | rejoin1 t j d c =>
      have hk : m >>> 5 = 6#8 := by simpa using hkind
      simp only [MacPL.enc, ite_err_eq_ok, ok.injEq] at hb
      obtain ⟨ht, rfl⟩ := hb
      have ht' : t = 1#8 := by simpa using ht
      simp [PHY.dec, hmic, hk, Spec.wire, Spec.wirePL, hj, hc, ht']
    | mac h fPort frm =>
      simp only [Bool.and_eq_true, Bool.or_eq_true, beq_iff_eq, decide_eq_true_eq] at hkind
      have hk : m >>> 5 ≠ 0#8 ∧ m >>> 5 ≠ 1#8 ∧ m >>> 5 ≠ 7#8 ∧ m >>> 5 ≠ 6#8 := by
        rcases hkind.1 with ((h | h) | h) | h <;> simp [h]
      simp [PHY.dec, hmic, hk, Spec.wire, mac_dec_enc h fPort frm b hb hkind.2, show ¬ (b.length + 4 + 1 < 5) by omega]

theorem item_enc_ok (i : Item) (h : Spec.itemOK i = true) : ∃ b, i.enc = ok b := by
  cases i with
  | data b => exact ⟨b, rfl⟩
  | cmd c =>
    obtain ⟨cid, pl⟩ := c
    cases pl with
    | none => exact ⟨[cid], rfl⟩
    | some p =>
      have hp : ∃ pb, p.enc = ok pb := by
        by_cases hk : p.kind = .proprietary
        · cases p <;> simp [MacP.kind] at hk
          exact ⟨_, rfl⟩
        · have : (Spec.toFields p).isSome = true := by
            cases p <;> first | (exfalso; exact hk rfl) | simpa [Spec.itemOK] using h
          exact isOk_iff.mp (accepts p this)
      obtain ⟨pb, hpb⟩ := hp
      exact ⟨cid :: pb, by simp [Item.enc, MacCmd.enc, hpb]⟩

theorem encItems_ok (is : List Item) (h : is.all Spec.itemOK = true) : ∃ b, encItems is = ok b := by
  induction is with
  | nil => exact ⟨[], rfl⟩
  | cons i is ih =>
    simp only [List.all_cons, Bool.and_eq_true] at h
    obtain ⟨b, hb⟩ := item_enc_ok i h.1
    obtain ⟨r, hr⟩ := ih h.2
    exact ⟨b ++ r, by simp [encItems, hb, hr]⟩

/-- `marshalPayload` refuses only commands outside port 0: otherwise it is the plain concatenation -/
theorem frmEnc_eq_encItems (fPort : Option Byte) (is : List Item) (hc : fPort = some 0 ∨ is.all (fun i => !i.isCmd) = true) :
    frmEnc fPort is = encItems is := by
  induction is with
  | nil => rfl
  | cons i is ih =>
    have hg : ¬ (i.isCmd = true ∧ (fPort != some 0) = true) := by
      rcases hc with rfl | hc
      · simp
      · intro hx; simp [hx.1] at hc
    rw [frmEnc, if_neg hg, ih (hc.imp_right fun hc => by simp only [List.all_cons, Bool.and_eq_true] at hc; exact hc.2), encItems]

theorem frmEnc_ok (fPort : Option Byte) (is : List Item) (h : is.all Spec.itemOK = true)
    (hc : fPort = some 0 ∨ is.all (fun i => !i.isCmd) = true) : ∃ b, frmEnc fPort is = ok b :=
  frmEnc_eq_encItems fPort is hc ▸ encItems_ok is h

/-! further facts about `leBytes` and `take`; nothing below or elsewhere uses them -/

theorem take_take_drop (l : Bytes) (a b : Nat) : l.take a ++ (l.drop a).take b = l.take (a + b) := by
  rw [List.take_add]

theorem ofNat_leNat_leBytes (w k x : Nat) (hx : x < 2 ^ w) (hk : 256 ^ k ≤ 2 ^ w) : BitVec.ofNat w (leNat (leBytes k x)) = BitVec.ofNat w (x % 256 ^ k) := by
  rw [leNat_leBytes]

theorem leBytes_len4 (x : Nat) : ∃ a0 a1 a2 a3, leBytes 4 x = [a0, a1, a2, a3] := ⟨_, _, _, _, rfl⟩
theorem leBytes_len2 (x : Nat) : ∃ a0 a1, leBytes 2 x = [a0, a1] := ⟨_, _, rfl⟩

end LW.FrameRT
