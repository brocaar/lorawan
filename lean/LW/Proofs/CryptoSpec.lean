/-
  LW.Proofs.CryptoSpec — the MIC / encryption code of the model equals the specification's block layouts.
  The data MICs and the frame-level operations are given by equations that include the failure case.
-/
import LW.Model.Crypto
import LW.Spec.Crypto
namespace LW.CryptoSpec
open Outcome

/-! The blocks the code assembles with `copy` and index writes evaluate to the specification's field lists. -/

theorem b0_up (addr fcnt : BitVec 32) (len : Nat) :
    setAt (copyAt (copyAt (setAt (zeros 16) 0 0x49#8) 6 (leBytes 4 addr.toNat)) 10 (leBytes 4 fcnt.toNat)) 15 (byteOfNat len)
      = Spec.B0 0 0#8 addr fcnt len := rfl

theorem b1_up (addr fcnt : BitVec 32) (len conf : Nat) (dr ch : Byte) :
    setAt (setAt (copyAt (Spec.B0 0 0#8 addr fcnt len) 1 (leBytes 2 conf)) 3 dr) 4 ch
      = Spec.B1 conf dr ch addr fcnt len := rfl

theorem b0_down (addr fcnt : BitVec 32) (len conf : Nat) :
    setAt (copyAt (copyAt (setAt (copyAt (setAt (zeros 16) 0 0x49#8) 1 (leBytes 2 conf)) 5 1#8) 6 (leBytes 4 addr.toNat)) 10 (leBytes 4 fcnt.toNat)) 15 (byteOfNat len)
      = Spec.B0 conf 1#8 addr fcnt len := rfl

/-- ConfFCnt: the code zeroes it under `z` and then cuts to 16 bits, the specification includes it under the opposite condition -/
theorem confFCnt_eq (z : Bool) (c : Nat) : (if z then 0 else c) % 65536 = if !z then c % 65536 else 0 := by
  cases z <;> rfl

/-- C02, uplink; the MIC fails exactly when the MACPayload does not serialise -/
theorem up_eq (E : BlockCipher) (ver : Byte) (conf : BitVec 32) (dr ch : Byte) (fk sk : Bytes) (p : PHY)
    (h : FHDR) (fPort : Option Byte) (frm : List Item) (hp : p.payload = some (.mac h fPort frm)) :
    calcUplinkDataMIC E ver conf dr ch fk sk p = (macEnc h fPort frm >>= fun b =>
      ok (Spec.micUp E (ver != 0) conf dr ch fk sk h.devAddr h.fCnt h.fCtrl.ack (mhdrEnc p.mtype p.major :: b))) := by
  simp only [calcUplinkDataMIC, hp, micBytesOf]
  cases macEnc h fPort frm with
  | ok b =>
    -- the code's `ver == 0` is the specification's `!v11`
    simp only [Outcome.ok_bind, b0_up, b1_up, Spec.micUp, confFCnt_eq, bne, Bool.not_not, apply_ite ok]
  -- not `rfl`: it would evaluate the block construction
  | err => simp only [Outcome.err_bind]
  | panic => simp only [Outcome.panic_bind]

theorem down_eq (E : BlockCipher) (ver : Byte) (conf : BitVec 32) (key : Bytes) (p : PHY)
    (h : FHDR) (fPort : Option Byte) (frm : List Item) (hp : p.payload = some (.mac h fPort frm)) :
    calcDownlinkDataMIC E ver conf key p = (macEnc h fPort frm >>= fun b =>
      ok (Spec.micDown E (ver != 0) conf key h.devAddr h.fCnt h.fCtrl.ack (mhdrEnc p.mtype p.major :: b))) := by
  simp only [calcDownlinkDataMIC, hp, micBytesOf]
  cases macEnc h fPort frm with
  | ok b =>
    simp only [Outcome.ok_bind, b0_down, Spec.micDown, confFCnt_eq, bne, Bool.not_or, Bool.not_not]
  | err => simp only [Outcome.err_bind]
  | panic => simp only [Outcome.panic_bind]

theorem set_validate (f : PHY → Outcome Bytes) (hf : ∀ p mic, f { p with mic := mic } = f p) {p p' : PHY}
    (hs : setMIC p (f p) = ok p') : validateMIC p' (f p') = ok true := by
  simp only [setMIC, bind_eq_ok, ok.injEq] at hs
  obtain ⟨mic, hm, rfl⟩ := hs
  simp [validateMIC, hf, hm]

theorem cmac_length (E : BlockCipher) (hE : E.Lawful) (k msg : Bytes) : (cmac (E.enc k) msg).length = 16 := by
  unfold cmac; exact hE.enc_len _ _

theorem leBytes_inj (k a b : Nat) (ha : a < 256 ^ k) (hb : b < 256 ^ k) (h : leBytes k a = leBytes k b) : a = b := by
  have := congrArg leNat h
  rwa [leNat_leBytes, leNat_leBytes, Nat.mod_eq_of_lt ha, Nat.mod_eq_of_lt hb] at this

theorem leBytes_append_inj {k a b : Nat} {x y : Bytes} (ha : a < 256 ^ k) (hb : b < 256 ^ k) :
    leBytes k a ++ x = leBytes k b ++ y ↔ a = b ∧ x = y := by
  constructor
  · intro h
    obtain ⟨h1, h2⟩ := List.append_inj h (by simp)
    exact ⟨leBytes_inj k a b ha hb h1, h2⟩
  · rintro ⟨rfl, rfl⟩; rfl

/-- a 32-bit field (DevAddr, FCnt, a time) at the head of what remains of a block: usable by `simp only` as it stands -/
theorem leBytes4_append_inj {a b : BitVec 32} {x y : Bytes} :
    leBytes 4 a.toNat ++ x = leBytes 4 b.toNat ++ y ↔ a = b ∧ x = y := by
  rw [leBytes_append_inj (k := 4) a.isLt b.isLt, BitVec.toNat_inj]

/-- the common shape of `B0 | msg` and `B1 | msg`: bytes 3..5 are 0, 0, Dir in B0 and TxDr, TxCh, 0 in B1 -/
theorem block_msg_inj {c c' : Nat} {u u' v v' w w' : Byte} {a a' f f' : BitVec 32} {msg msg' : Bytes}
    (hc : c < 65536) (hc' : c' < 65536)
    (h : [0x49#8] ++ leBytes 2 c ++ [u, v] ++ [w] ++ leBytes 4 a.toNat ++ leBytes 4 f.toNat ++ [0#8, byteOfNat msg.length] ++ msg =
      [0x49#8] ++ leBytes 2 c' ++ [u', v'] ++ [w'] ++ leBytes 4 a'.toNat ++ leBytes 4 f'.toNat ++ [0#8, byteOfNat msg'.length] ++ msg') :
    c = c' ∧ u = u' ∧ v = v' ∧ w = w' ∧ a = a' ∧ f = f' ∧ msg = msg' := by
  -- both blocks are 16 bytes, so the messages split off at the same place
  obtain ⟨hb, hm⟩ := List.append_inj h (by simp)
  simp only [List.append_assoc, List.cons_append, List.nil_append, List.cons.injEq, true_and,
    leBytes_append_inj (k := 2) hc hc', leBytes4_append_inj] at hb
  exact ⟨hb.1, hb.2.1, hb.2.2.1, hb.2.2.2.1, hb.2.2.2.2.1, hb.2.2.2.2.2.1, hm⟩

theorem aBlock_spec (up : Bool) (addr fcnt : BitVec 32) (i : Nat) :
    aBlock (0 : Byte) up addr fcnt (byteOfNat i) = Spec.Ablock (Spec.dirByte up) addr fcnt i := by
  cases up <;> rfl

theorem aFopts_spec (af up : Bool) (addr fcnt : BitVec 32) :
    aBlock (if af then 2#8 else 1#8) up addr fcnt 1#8 = Spec.AFopts af up addr fcnt := by
  cases up <;> cases af <;> rfl

theorem keystream_length (E : BlockCipher) (hE : E.Lawful) (key : Bytes) (dir : Byte) (addr fcnt : BitVec 32) (n i : Nat) :
    (Spec.keystream E key dir addr fcnt n i).length = 16 * n := by
  induction n generalizing i with
  | zero => rfl
  | succ n ih => simp only [Spec.keystream, List.length_append, hE.enc_len, ih]; omega

theorem frmLoop_spec (E : BlockCipher) (hE : E.Lawful) (key : Bytes) (up : Bool) (addr fcnt : BitVec 32) (n i : Nat) (data : Bytes)
    (hl : data.length = 16 * n) :
    frmLoop (E.enc key) up addr fcnt n i data = xorBytes data (Spec.keystream E key (Spec.dirByte up) addr fcnt n (i + 1)) := by
  induction n generalizing i data with
  | zero => exact (xorBytes_nil_right data).symm
  | succ n ih =>
    simp only [frmLoop, Spec.keystream]
    rw [aBlock_spec, ih (i + 1) (data.drop 16) (by rw [List.length_drop]; omega)]
    conv => rhs; rw [← List.take_append_drop 16 data]
    rw [xorBytes_append _ _ _ _ (by rw [List.length_take, hE.enc_len]; omega)]

/-- C03: `EncryptFRMPayload` = payload ⊕ S_1|S_2|… -/
theorem frm_spec (E : BlockCipher) (hE : E.Lawful) (key : Bytes) (up : Bool) (addr fcnt : BitVec 32) (data : Bytes) :
    encryptFRMPayload E key up addr fcnt data = Spec.cryptFRM E key up addr fcnt data := by
  -- the padded payload is ⌈len/16⌉ whole blocks; cutting the XOR back to `len` bytes forgets the padding
  have hpad : ∀ pad : Bytes, (data ++ pad).length = 16 * ((data.length + 15) / 16) →
      (frmLoop (E.enc key) up addr fcnt ((data ++ pad).length / 16) 0 (data ++ pad)).take data.length
        = Spec.cryptFRM E key up addr fcnt data := by
    intro pad hl
    rw [show (data ++ pad).length / 16 = (data.length + 15) / 16 by omega, frmLoop_spec E hE _ _ _ _ _ 0 _ hl,
      xorBytes_take, List.take_left', xorBytes_take_right _ _ _ (Nat.le_refl _), Spec.cryptFRM]
    rfl
  simp only [encryptFRMPayload]
  split
  · rename_i h; exact hpad _ (by simp at h ⊢; omega)
  · rename_i h; simpa using hpad [] (by simp at h ⊢; omega)

theorem cryptFRM_length (E : BlockCipher) (hE : E.Lawful) (key : Bytes) (up : Bool) (addr fcnt : BitVec 32) (data : Bytes) :
    (Spec.cryptFRM E key up addr fcnt data).length = data.length := by
  simp only [Spec.cryptFRM, xorBytes_length, keystream_length E hE]; omega

theorem cryptFRM_invol (E : BlockCipher) (hE : E.Lawful) (key : Bytes) (up : Bool) (addr fcnt : BitVec 32) (data : Bytes) :
    Spec.cryptFRM E key up addr fcnt (Spec.cryptFRM E key up addr fcnt data) = data := by
  have hl := cryptFRM_length E hE key up addr fcnt data
  simp only [Spec.cryptFRM] at hl ⊢
  rw [hl]
  apply xorBytes_cancel_right
  rw [keystream_length E hE]; omega

theorem fopts_spec (E : BlockCipher) (key : Bytes) (af up : Bool) (addr fcnt : BitVec 32) (data : Bytes) :
    encryptFOpts E key af up addr fcnt data =
      if data.length > 15 then err else ok (Spec.cryptFOpts E key af up addr fcnt data) := by
  simp only [encryptFOpts, aFopts_spec, Spec.cryptFOpts]

theorem cryptFOpts_invol (E : BlockCipher) (hE : E.Lawful) (key : Bytes) (af up : Bool) (addr fcnt : BitVec 32) (data : Bytes)
    (h : data.length ≤ 16) :
    Spec.cryptFOpts E key af up addr fcnt (Spec.cryptFOpts E key af up addr fcnt data) = data := by
  apply xorBytes_cancel_right
  rw [hE.enc_len]; exact h

theorem cryptFOpts_length (E : BlockCipher) (hE : E.Lawful) (key : Bytes) (af up : Bool) (addr fcnt : BitVec 32) (data : Bytes)
    (h : data.length ≤ 16) : (Spec.cryptFOpts E key af up addr fcnt data).length = data.length := by
  simp only [Spec.cryptFOpts, xorBytes_length, hE.enc_len]; omega

theorem phy_encryptFRM (E : BlockCipher) (hE : E.Lawful) (key : Bytes) (p : PHY) (h : FHDR) (fPort : Option Byte) (frm : List Item)
    (hp : p.payload = some (.mac h fPort frm)) :
    p.encryptFRM E key = if frm.length == 0 then ok p else frmEnc fPort frm >>= fun data =>
      ok { p with payload := some (.mac h fPort [.data (Spec.cryptFRM E key p.isUplink h.devAddr h.fCnt data)]) } := by
  simp only [PHY.encryptFRM, hp, frm_spec E hE]

theorem phy_encryptFOpts (E : BlockCipher) (key : Bytes) (p : PHY) (h : FHDR) (fPort : Option Byte) (frm : List Item)
    (hp : p.payload = some (.mac h fPort frm)) :
    p.encryptFOpts E key = if h.fOpts.length == 0 then ok p else encItems h.fOpts >>= fun macB =>
      if macB.length > 15 then err else
      ok { p with payload := some (.mac { h with fOpts := [.data (Spec.cryptFOpts E key
              (Spec.useAFCntDown p.isUplink fPort) p.isUplink h.devAddr h.fCnt macB)] } fPort frm) } := by
  simp only [PHY.encryptFOpts, hp, fopts_spec]
  split
  · rfl
  · cases encItems h.fOpts with
    | ok macB => cases fPort <;> by_cases hl : macB.length > 15 <;> simp [Spec.useAFCntDown, hl]
    | err => rfl
    | panic => rfl

theorem ecb_spec (f : Bytes → Bytes) (n : Nat) (data : Bytes) : ecb f n data = ((Spec.blocks n data).map f).flatten := by
  induction n generalizing data with
  | zero => rfl
  | succ n ih => simp [ecb, Spec.blocks, ih]

theorem ecb_length (f : Bytes → Bytes) (hf : ∀ b, (f b).length = 16) (n : Nat) (data : Bytes) : (ecb f n data).length = 16 * n := by
  induction n generalizing data with
  | zero => rfl
  | succ n ih => simp only [ecb, List.length_append, hf, ih]; omega

theorem ecb_ecb (f g : Bytes → Bytes) (hf : ∀ b, (f b).length = 16) (hgf : ∀ b, b.length = 16 → g (f b) = b)
    (n : Nat) (data : Bytes) (hl : data.length = 16 * n) : ecb g n (ecb f n data) = data := by
  induction n generalizing data with
  | zero =>
    have : data = [] := List.eq_nil_of_length_eq_zero (by simpa using hl)
    subst this; rfl
  | succ n ih =>
    simp only [ecb]
    rw [List.take_left' (hf _), List.drop_left' (hf _), hgf _ (by rw [List.length_take]; omega),
        ih _ (by rw [List.length_drop]; omega), List.take_append_drop]

theorem ja_mic_spec (E : BlockCipher) (jt : Byte) (eui : BitVec 64) (dn : BitVec 16) (key : Bytes) (p : PHY) (ja : JoinAccept) (b : Bytes)
    (hp : p.payload = some (.joinAccept ja)) (hb : ja.enc = ok b) :
    calcDownlinkJoinMIC E jt eui dn key p = ok (Spec.micJoinAccept E key ja.optNeg jt eui dn (mhdrEnc p.mtype p.major) b) := by
  simp only [calcDownlinkJoinMIC, hp, hb, Outcome.ok_bind, Spec.micJoinAccept]

theorem encryptJoinAccept_length (E : BlockCipher) (hE : E.Lawful) (key pm : Bytes) (hl : pm.length % 16 = 0) :
    (Spec.encryptJoinAccept E key pm).length = pm.length := by
  rw [Spec.encryptJoinAccept, ← ecb_spec, ecb_length _ (hE.dec_len key)]; omega

/-- the ciphertext is aes128_decrypt in ECB over payload|MIC; its last 4 bytes become the new MIC -/
theorem ja_encrypt_spec (E : BlockCipher) (key : Bytes) (p : PHY) (ja : JoinAccept) (b : Bytes)
    (hp : p.payload = some (.joinAccept ja)) (hb : ja.enc = ok b) (hm : p.mic.length = 4) (hl : (b ++ p.mic).length % 16 = 0) :
    p.encryptJA E key =
      ok { p with payload := some (.data ((Spec.encryptJoinAccept E key (b ++ p.mic)).take ((Spec.encryptJoinAccept E key (b ++ p.mic)).length - 4))),
                  mic := (Spec.encryptJoinAccept E key (b ++ p.mic)).drop ((Spec.encryptJoinAccept E key (b ++ p.mic)).length - 4) } := by
  have hmic : p.mic.take 4 = p.mic := List.take_of_length_le (by omega)
  have hn : ¬ ((b ++ p.mic).length % 16 != 0) = true := by simp only [hl]; decide
  simp only [PHY.encryptJA, hp, hb, Outcome.ok_bind, hmic, hn, if_false, Bool.false_eq_true, Spec.encryptJoinAccept, ecb_spec]

theorem ja_device (E : BlockCipher) (hE : E.Lawful) (key : Bytes) (pm : Bytes) (hl : pm.length % 16 = 0) :
    Spec.deviceDecryptJoinAccept E key (Spec.encryptJoinAccept E key pm) = pm := by
  rw [Spec.deviceDecryptJoinAccept, encryptJoinAccept_length E hE key pm hl, ← ecb_spec, Spec.encryptJoinAccept, ← ecb_spec]
  exact ecb_ecb _ _ (hE.dec_len key) (hE.enc_dec key) _ pm (by omega)

end LW.CryptoSpec
