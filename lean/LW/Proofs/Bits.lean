/-
  LW.Proofs.Bits — bytes as numbers, so that the codecs' mask-and-shift expressions are compared with the specification's field
  arithmetic by `omega`.  A fact about a flag byte as a whole can instead be evaluated over its finite domain and lifted to
  `Byte` variables with range hypotheses (`lift16`; the application-layer proofs use the one-byte form `App.lift1`).
-/
import LW.Basic
namespace LW.Bits

theorem byte_of_fin16 (x : Byte) (h : x.toNat ≤ 15) : x = BitVec.ofNat 8 (⟨x.toNat, by omega⟩ : Fin 16).val := by
  simp

theorem lift16 {P : Byte → Byte → Prop} (key : ∀ a b : Fin 16, P (BitVec.ofNat 8 a) (BitVec.ofNat 8 b))
    (x y : Byte) (hx : x.toNat ≤ 15) (hy : y.toNat ≤ 15) : P x y := by
  have := key ⟨x.toNat, by omega⟩ ⟨y.toNat, by omega⟩
  simpa using this

/-! ### fields side by side in a word, read arithmetically

`x ||| y <<< k` with `x` below `2 ^ k` is the number `x + 2 ^ k * y` (a part below `2 ^ k` and a multiple of `2 ^ k` share no
bit, so `|||` and `^^^` add them); a mask `2 ^ n - 1` reads a remainder, `>>> k` a quotient.  Masks are passed as they are
written in the model (`0x70#8`), with their arithmetic reading as a side condition closed by `rfl`. -/

theorem toNat_and_mask {w : Nat} (b m : BitVec w) (n : Nat) (hm : m.toNat = 2 ^ n - 1) : (b &&& m).toNat = b.toNat % 2 ^ n := by
  rw [BitVec.toNat_and, hm, Nat.and_two_pow_sub_one_eq_mod]

theorem toNat_shr {w : Nat} (b : BitVec w) (k : Nat) : (b >>> k).toNat = b.toNat / 2 ^ k := by
  rw [BitVec.toNat_ushiftRight, Nat.shiftRight_eq_div_pow]

/-- `(b & m) >> k` for a mask `m` that is `2 ^ n - 1` shifted left by `k`: the `n` bits from bit `k` -/
theorem toNat_and_shr {w : Nat} (b m : BitVec w) (k n : Nat) (hm : m.toNat >>> k = 2 ^ n - 1) :
    ((b &&& m) >>> k).toNat = b.toNat / 2 ^ k % 2 ^ n := by
  rw [BitVec.toNat_ushiftRight, BitVec.toNat_and, Nat.shiftRight_and_distrib, hm, Nat.and_two_pow_sub_one_eq_mod,
    Nat.shiftRight_eq_div_pow]

theorem and_twoPow_ne_zero {w : Nat} (b : BitVec w) (i : Nat) (hi : i < w) : (b &&& BitVec.twoPow w i != 0#w) = b.getLsbD i := by
  rw [BitVec.and_twoPow]
  cases b.getLsbD i
  · simp
  · have : BitVec.twoPow w i ≠ 0#w := by
      intro h
      have := congrArg BitVec.toNat h
      rw [BitVec.toNat_twoPow, BitVec.toNat_ofNat, Nat.zero_mod, Nat.mod_eq_of_lt (Nat.pow_lt_pow_right (by decide) hi)] at this
      exact absurd this (Nat.ne_of_gt (Nat.two_pow_pos i))
    simp [this]

theorem and_mask_eq {w : Nat} {x : BitVec w} (m : BitVec w) (n : Nat) (hm : m.toNat = 2 ^ n - 1) (hx : x.toNat < 2 ^ n) :
    x &&& m = x := by
  apply BitVec.eq_of_toNat_eq
  rw [toNat_and_mask x m n hm, Nat.mod_eq_of_lt hx]

theorem and3 (x : Byte) (h : x.toNat < 4) : x &&& 0x03#8 = x := and_mask_eq _ 2 rfl h
theorem and15 (x : Byte) (h : x.toNat < 16) : x &&& 0x0f#8 = x := and_mask_eq _ 4 rfl h

theorem or_two_pow_mul {i b : Nat} (h : b < 2 ^ i) (a : Nat) : b ||| 2 ^ i * a = b + 2 ^ i * a := by
  rw [Nat.or_comm, ← Nat.two_pow_add_eq_or_of_lt h, Nat.add_comm]

theorem xor_two_pow_mul {i b : Nat} (h : b < 2 ^ i) (a : Nat) : b ^^^ 2 ^ i * a = b + 2 ^ i * a := by
  rw [← or_two_pow_mul h]
  apply Nat.eq_of_testBit_eq
  intro j
  rw [Nat.testBit_xor, Nat.testBit_or, Nat.testBit_two_pow_mul]
  by_cases hj : j < i
  · simp [Nat.not_le.mpr hj]
  · have : b.testBit j = false :=
      Nat.testBit_lt_two_pow (Nat.lt_of_lt_of_le h (Nat.pow_le_pow_right (by omega) (by omega)))
    simp [this]

theorem toNat_or_add {w : Nat} (x y : BitVec w) (i : Nat) (hx : x.toNat < 2 ^ i) (hy : 2 ^ i ∣ y.toNat) :
    (x ||| y).toNat = x.toNat + y.toNat := by
  obtain ⟨a, ha⟩ := hy
  rw [BitVec.toNat_or, ha, or_two_pow_mul hx]

theorem toNat_xor_add {w : Nat} (x y : BitVec w) (i : Nat) (hx : x.toNat < 2 ^ i) (hy : 2 ^ i ∣ y.toNat) :
    (x ^^^ y).toNat = x.toNat + y.toNat := by
  obtain ⟨a, ha⟩ := hy
  rw [BitVec.toNat_xor, ha, xor_two_pow_mul hx]

theorem toNat_shl {w : Nat} (y : BitVec w) (k : Nat) (hk : k ≤ w) (hy : y.toNat < 2 ^ (w - k)) :
    (y <<< k).toNat = 2 ^ k * y.toNat := by
  have : y.toNat * 2 ^ k < 2 ^ w := by
    rw [show 2 ^ w = 2 ^ (w - k) * 2 ^ k by rw [← Nat.pow_add]; congr 1; omega]
    exact Nat.mul_lt_mul_of_pos_right hy (Nat.two_pow_pos k)
  rw [BitVec.toNat_shiftLeft, Nat.shiftLeft_eq, Nat.mod_eq_of_lt this, Nat.mul_comm]

/-- Go's `x | y<<k` for `x < 2^k` and `y<<k` not overflowing the word -/
theorem toNat_or_shl {w : Nat} (x y : BitVec w) (k : Nat) (hk : k ≤ w) (hx : x.toNat < 2 ^ k) (hy : y.toNat < 2 ^ (w - k)) :
    (x ||| y <<< k).toNat = x.toNat + 2 ^ k * y.toNat := by
  rw [toNat_or_add x _ k hx (by rw [toNat_shl y k hk hy]; exact Nat.dvd_mul_right ..), toNat_shl y k hk hy]

/-- Go's `x ^ y<<k`, same conditions -/
theorem toNat_xor_shl {w : Nat} (x y : BitVec w) (k : Nat) (hk : k ≤ w) (hx : x.toNat < 2 ^ k) (hy : y.toNat < 2 ^ (w - k)) :
    (x ^^^ y <<< k).toNat = x.toNat + 2 ^ k * y.toNat := by
  rw [toNat_xor_add x _ k hx (by rw [toNat_shl y k hk hy]; exact Nat.dvd_mul_right ..), toNat_shl y k hk hy]

theorem or_shl_lo {w : Nat} (x y m : BitVec w) (k : Nat) (hk : k ≤ w) (hm : m.toNat = 2 ^ k - 1) (hx : x.toNat < 2 ^ k)
    (hy : y.toNat < 2 ^ (w - k)) : (x ||| y <<< k) &&& m = x := by
  apply BitVec.eq_of_toNat_eq
  rw [toNat_and_mask _ m k hm, toNat_or_shl x y k hk hx hy, Nat.add_comm, Nat.mul_add_mod, Nat.mod_eq_of_lt hx]

theorem or_shl_hi {w : Nat} (x y : BitVec w) (k : Nat) (hk : k ≤ w) (hx : x.toNat < 2 ^ k) (hy : y.toNat < 2 ^ (w - k)) :
    (x ||| y <<< k) >>> k = y := by
  apply BitVec.eq_of_toNat_eq
  rw [toNat_shr, toNat_or_shl x y k hk hx hy, Nat.add_comm, Nat.mul_add_div (Nat.two_pow_pos k), Nat.div_eq_of_lt hx,
    Nat.add_zero]

/-- two masked fields in one word, as the application-layer encoders write them, read back -/
theorem two_fields {w : Nat} {x y : BitVec w} (mx my : BitVec w) (k n : Nat) (hk : k + n ≤ w) (hmx : mx.toNat = 2 ^ k - 1)
    (hmy : my.toNat = 2 ^ n - 1) (hx : x.toNat < 2 ^ k) (hy : y.toNat < 2 ^ n) :
    ((x &&& mx ||| (y &&& my) <<< k) >>> k) &&& my = y ∧ (x &&& mx ||| (y &&& my) <<< k) &&& mx = x := by
  have hy' : y.toNat < 2 ^ (w - k) := Nat.lt_of_lt_of_le hy (Nat.pow_le_pow_right (by omega) (by omega))
  rw [and_mask_eq mx k hmx hx, and_mask_eq my n hmy hy, or_shl_hi x y k (by omega) hx hy', and_mask_eq my n hmy hy]
  exact ⟨rfl, or_shl_lo x y mx k (by omega) hmx hx hy'⟩

theorem eq_byteOfNat {x : Byte} {n : Nat} (h : x.toNat = n) : x = byteOfNat n := by
  subst h; simp [byteOfNat]

/-! `toNat_and_mask` and `toNat_shr` at the constants the frame and MAC codecs are written with -/
theorem toNat_and_15 (b : Byte) : (b &&& 15#8).toNat = b.toNat % 16 := toNat_and_mask b _ 4 rfl
theorem toNat_and_3f (b : Byte) : (b &&& 0x3f#8).toNat = b.toNat % 64 := toNat_and_mask b _ 6 rfl
theorem toNat_and_3 (b : Byte) : (b &&& 3#8).toNat = b.toNat % 4 := toNat_and_mask b _ 2 rfl
theorem toNat_shr4 (b : Byte) : (b >>> 4).toNat = b.toNat / 16 := toNat_shr b 4
theorem toNat_shr5 (b : Byte) : (b >>> 5).toNat = b.toNat / 32 := toNat_shr b 5
theorem bit_eq (b : Byte) (i : Nat) : bit b i = (b.toNat / 2 ^ i % 2 == 1) := by
  simp [bit, BitVec.getLsbD, Nat.testBit, Nat.shiftRight_eq_div_pow]

end LW.Bits
