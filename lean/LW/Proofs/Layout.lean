/-
  LW.Proofs.Layout — the frame encoder produces exactly the bytes of the layout tables (C06, frame level). Each table is
  taken apart from its low bytes upwards (`Pack.pack_cons_bytes`, `Pack.pack_take`); bytes holding several fields are computed on their own.
-/
import LW.Spec.Layout
import LW.Proofs.JoinAcceptRT

namespace LW.LayoutProofs
open Outcome Pack

theorem mhdr_pack (mt mj : Byte) (h : mt.toNat ≤ 7) : Spec.pack 1 Spec.mhdrLayout [mt.toNat, mj.toNat] = [mhdrEnc mt mj] := by
  exact pack_one _ _ _ (by rw [FrameRT.toNat_mhdrEnc mt mj h]; simp only [Spec.mhdrLayout, Spec.packNat]; omega)

theorem fhdr_pack (addr fcnt : BitVec 32) (adr aar ack p : Bool) (l : Nat) (hl : l ≤ 15) :
    Spec.pack 7 Spec.fhdrLayout [addr.toNat, l, Spec.b2n p, Spec.b2n ack, Spec.b2n aar, Spec.b2n adr, fcnt.toNat] =
      leBytes 4 addr.toNat ++ [byteOfNat (l + 16 * Spec.b2n p + 32 * Spec.b2n ack + 64 * Spec.b2n aar + 128 * Spec.b2n adr)] ++ leBytes 2 fcnt.toNat := by
  have h1 := MacSpec.b2n_lt p; have h2 := MacSpec.b2n_lt ack; have h3 := MacSpec.b2n_lt aar; have h4 := MacSpec.b2n_lt adr
  simp (disch := decide) only [Spec.fhdrLayout, pack_cons_bytes, List.map, unshift, Nat.reduceSub, Nat.reduceDiv]
  -- FCtrl: five fields in one byte
  rw [pack_take 1 5 (by decide) (by simp) (by simp) (by simp only [List.take, Spec.packNat]; omega) (by decide)]
  simp only [List.take, List.drop, List.map, unshift, Nat.reduceSub, Nat.reduceMul]
  rw [pack_bytes 2, List.append_assoc,
    pack_one _ _ (byteOfNat (l + 16 * Spec.b2n p + 32 * Spec.b2n ack + 64 * Spec.b2n aar + 128 * Spec.b2n adr))
      (by simp only [Spec.packNat, byteOfNat, BitVec.toNat_ofNat]; omega)]

theorem joinReq_pack (j d n : Nat) :
    Spec.pack 18 Spec.joinReqLayout [j, d, n] = leBytes 8 j ++ leBytes 8 d ++ leBytes 2 n := by
  simp (disch := decide) only [Spec.joinReqLayout, pack_cons_bytes, List.map, unshift, Nat.reduceSub, Nat.reduceDiv, pack_nil, List.append_nil,
    List.append_assoc]

theorem rejoin02_pack (t : Byte) (n d c : Nat) :
    Spec.pack 14 Spec.rejoin02Layout [t.toNat, n, d, c] = [t] ++ leBytes 3 n ++ leBytes 8 d ++ leBytes 2 c := by
  simp (disch := decide) only [Spec.rejoin02Layout, pack_cons_bytes, List.map, unshift, Nat.reduceSub, Nat.reduceDiv, pack_nil,
    List.append_nil, leBytes_one_toNat, List.append_assoc]

theorem rejoin1_pack (t : Byte) (j d c : Nat) :
    Spec.pack 19 Spec.rejoin1Layout [t.toNat, j, d, c] = [t] ++ leBytes 8 j ++ leBytes 8 d ++ leBytes 2 c := by
  simp (disch := decide) only [Spec.rejoin1Layout, pack_cons_bytes, List.map, unshift, Nat.reduceSub, Nat.reduceDiv, pack_nil,
    List.append_nil, leBytes_one_toNat, List.append_assoc]

theorem joinAccept_pack (jn nid addr : Nat) (r2 r1 rxd : Byte) (o : Bool) (h2 : r2.toNat ≤ 15) (h1 : r1.toNat ≤ 7) (hd : rxd.toNat ≤ 15) :
    Spec.pack 12 Spec.joinAcceptLayout [jn, nid, addr, r2.toNat, r1.toNat, Spec.b2n o, rxd.toNat] =
      leBytes 3 jn ++ leBytes 3 nid ++ leBytes 4 addr ++ [byteOfNat (r2.toNat + 16 * r1.toNat + 128 * Spec.b2n o), rxd] := by
  simp (disch := decide) only [Spec.joinAcceptLayout, pack_cons_bytes, List.map, unshift, Nat.reduceSub, Nat.reduceDiv]
  -- DLSettings: three fields in one byte; RxDelay: four bits of the next
  rw [pack_take 1 3 (by decide) (by simp) (by simp) (by simp only [List.take, Spec.packNat]; omega) (by decide)]
  simp only [List.take, List.drop, List.map, unshift, Nat.reduceSub, Nat.reduceMul]
  rw [pack_one _ _ (byteOfNat (r2.toNat + 16 * r1.toNat + 128 * Spec.b2n o)) (by simp only [Spec.packNat, byteOfNat, BitVec.toNat_ofNat]; omega),
    pack_one [⟨0, 4⟩] _ rxd (by simp only [Spec.packNat]; omega)]
  simp only [List.append_assoc, List.cons_append, List.nil_append]

theorem cfChannels_pack (c0 c1 c2 c3 c4 : Nat) (t : Byte) :
    Spec.pack 16 Spec.cfChannelsLayout [c0, c1, c2, c3, c4, t.toNat] =
      leBytes 3 c0 ++ leBytes 3 c1 ++ leBytes 3 c2 ++ leBytes 3 c3 ++ leBytes 3 c4 ++ [t] := by
  simp (disch := decide) only [Spec.cfChannelsLayout, pack_cons_bytes, List.map, unshift, Nat.reduceSub, Nat.reduceDiv, pack_nil,
    List.append_nil, leBytes_one_toNat, List.append_assoc]

theorem cfMasks_pack (m0 m1 m2 m3 m4 m5 m6 : Nat) (t : Byte) :
    Spec.pack 16 Spec.cfMasksLayout [m0, m1, m2, m3, m4, m5, m6, t.toNat] =
      leBytes 2 m0 ++ leBytes 2 m1 ++ leBytes 2 m2 ++ leBytes 2 m3 ++ leBytes 2 m4 ++ leBytes 2 m5 ++ leBytes 2 m6 ++ [0, t] := by
  simp (disch := decide) only [Spec.cfMasksLayout, pack_cons_bytes, List.map, unshift, Nat.reduceSub, Nat.reduceDiv]
  -- the RFU byte: an empty layout for one byte, then the type byte
  rw [pack_take 1 0 (by decide) (by simp) (by simp) (Nat.pow_pos (by decide)) (by decide)]
  simp only [List.take, List.drop, List.map, unshift, Nat.reduceSub, Nat.reduceMul, pack_bytes 1, leBytes_one_toNat, List.append_assoc]
  rfl

theorem mac_layout (h : FHDR) (fPort : Option Byte) (frm : List Item) (ob fb : Bytes)
    (ho : encItems h.fOpts = ok ob) (hf : frmEnc fPort frm = ok fb) (hl : ob.length ≤ 15)
    (hn : fPort = none → frm.length = 0) (h0 : fPort = some 0 → h.fOpts.length = 0) :
    macEnc h fPort frm =
      ok (Spec.macPayloadBytes h.devAddr h.fCtrl.adr h.fCtrl.adrAckReq h.fCtrl.ack (h.fCtrl.classB || h.fCtrl.fPending) h.fCnt ob fPort fb) := by
  have hng : ¬ (BitVec.ofNat 8 ob.length : Byte).toNat > 15 := by rw [BitVec.toNat_ofNat]; omega
  have hfh : h.enc = ok (leBytes 4 h.devAddr.toNat ++
      [byteOfNat (ob.length + 16 * Spec.b2n (h.fCtrl.classB || h.fCtrl.fPending) + 32 * Spec.b2n h.fCtrl.ack + 64 * Spec.b2n h.fCtrl.adrAckReq + 128 * Spec.b2n h.fCtrl.adr)] ++
      leBytes 2 h.fCnt.toNat ++ ob) := by
    have hc := (FrameRT.fctrl_byte h.fCtrl.adr h.fCtrl.adrAckReq h.fCtrl.ack (h.fCtrl.classB || h.fCtrl.fPending) ⟨ob.length, by omega⟩).1
    simp only [FCtrl.enc, Bool.or_self, if_neg hng] at hc
    rw [FrameRT.fhdr_enc_eq ho, if_neg (by omega)]
    simp only [FCtrl.enc, byteOfNat, if_neg hng, ok.inj hc, ok_bind]
  unfold Spec.macPayloadBytes
  rw [fhdr_pack _ _ _ _ _ _ _ hl]
  simp only [macEnc, hfh, ok_bind]
  cases fPort with
  | none =>
    cases List.length_eq_zero_iff.mp (hn rfl)
    simp
  | some p =>
    simp only [hf, ok_bind]
    have : ¬ (h.fOpts.length != 0 ∧ p == 0) := by
      rintro ⟨h1, h2⟩
      rw [h0 (by rw [beq_iff_eq.mp h2])] at h1
      exact absurd h1 (by decide)
    rw [if_neg this]
    simp

theorem flatMap_replicate_zero (n : Nat) : (List.replicate n 0).flatMap (leBytes 2) = zeros (2 * n) := by
  induction n with
  | zero => rfl
  | succ n ih => rw [List.replicate_succ, List.flatMap_cons, ih, Nat.mul_succ]; rfl

theorem cfList_layout (l : CFList) (sb : Bytes) (h : Spec.cfListBytes l = some sb) : l.enc = ok sb := by
  obtain ⟨pl, t⟩ := l
  cases pl with
  | channels fs =>
    simp only [Spec.cfListBytes] at h
    split at h
    · rename_i f0 f1 f2 f3 f4 heq
      cases heq
      split at h
      · rename_i c0 c1 c2 c3 c4 h0 h1 h2 h3 h4
        cases h
        obtain ⟨a0, b0, rfl⟩ := MacSpec.freqCode_eq_some.mp h0
        obtain ⟨a1, b1, rfl⟩ := MacSpec.freqCode_eq_some.mp h1
        obtain ⟨a2, b2, rfl⟩ := MacSpec.freqCode_eq_some.mp h2
        obtain ⟨a3, b3, rfl⟩ := MacSpec.freqCode_eq_some.mp h3
        obtain ⟨a4, b4, rfl⟩ := MacSpec.freqCode_eq_some.mp h4
        have he : cfChannelsEnc [f0, f1, f2, f3, f4] = ok _ := FrameRT.cfChannelsEnc_eq_ok.mpr
          ⟨by simp only [List.forall_mem_cons, List.not_mem_nil, false_imp_iff, implies_true, and_true]; omega, rfl⟩
        simp only [CFList.enc, CFListP.enc, he, ok_bind]
        rw [FrameRT.pad15 _ (by simp), cfChannels_pack]
        simp [zeros]
      · cases h
    · cases h
    · rename_i hne; cases hne
  | masks ms =>
    simp only [Spec.cfListBytes] at h
    split at h
    · rename_i hlen
      -- the table's seven slots are the masks, then zero masks: on the wire, the padding
      have hvs : (ms.map BitVec.toNat ++ List.replicate 7 0).take 7 = ms.map BitVec.toNat ++ List.replicate (7 - ms.length) 0 := by
        rw [take_append_of_length_le (by simp; omega), List.length_map, List.take_replicate]
        congr 2; omega
      have hbytes : (ms.map BitVec.toNat ++ List.replicate (7 - ms.length) 0).flatMap (leBytes 2) =
          ms.flatMap chMaskEnc ++ zeros (14 - 2 * ms.length) := by
        rw [List.flatMap_append, List.flatMap_map, flatMap_replicate_zero]
        congr 2; omega
      generalize hv : ms.map BitVec.toNat ++ List.replicate (7 - ms.length) 0 = vs at hvs hbytes
      have hl : vs.length = 7 := by rw [← hv]; simp; omega
      rw [hvs] at h
      match vs, hl with
      | [m0, m1, m2, m3, m4, m5, m6], _ =>
        cases Option.some.inj h
        have hcb := flatMap_length_const 2 chMaskEnc (fun _ => leBytes_length _ _) ms
        have hz : zeros (15 - 2 * ms.length) = zeros (14 - 2 * ms.length) ++ [0] := by
          rw [show 15 - 2 * ms.length = (14 - 2 * ms.length) + 1 by omega, zeros, zeros, List.replicate_succ']
        simp only [CFList.enc, CFListP.enc, cfMasksEnc, if_neg (Nat.not_lt.mpr hlen), ok_bind]
        rw [FrameRT.pad15 _ (by omega), cfMasks_pack, hcb]
        simp only [List.flatMap_cons, List.flatMap_nil, List.append_nil] at hbytes
        simp only [List.append_assoc, hbytes, hz, List.cons_append, List.nil_append]
    · cases h

theorem payload_layout (pl : MacPL) (sb : Bytes) (h : Spec.payloadBytes pl = some sb) : pl.enc = ok sb := by
  cases pl with
  | mac hd fPort frm =>
    simp only [Spec.payloadBytes] at h
    split at h
    · rename_i ob fb ho hf
      simp only [Option.ite_none_right_eq_some, Option.some.injEq] at h
      obtain ⟨hc, rfl⟩ := h
      exact mac_layout hd fPort frm ob fb ho hf hc.1 hc.2.1 hc.2.2
    · cases h
  | joinReq j d n =>
    cases Option.some.inj h
    rw [joinReq_pack]; rfl
  | joinAccept ja =>
    simp only [Spec.payloadBytes, Option.ite_none_right_eq_some] at h
    obtain ⟨⟨hjn, h2, h1, hd⟩, h⟩ := h
    rw [MacPL.enc, FrameRT.joinAccept_enc_eq ja hd hjn h2 h1, MacSpec.dlSettings_eq_byteOfNat _ _ _ h2 h1,
      ← joinAccept_pack ja.joinNonce.toNat ja.homeNetID.toNat ja.devAddr.toNat ja.rx2dr ja.rx1off ja.rxDelay ja.optNeg h2 h1 hd]
    cases hcf : ja.cfList with
    | none =>
      cases Option.some.inj (hcf ▸ h)
      simp only [ok_bind, List.append_nil]
    | some l =>
      simp only [hcf, Option.map_eq_some_iff] at h
      obtain ⟨cb, hl, rfl⟩ := h
      simp only [cfList_layout l cb hl, ok_bind]
  | rejoin02 t n d c =>
    simp only [Spec.payloadBytes, Option.ite_none_right_eq_some, Option.some.injEq] at h
    obtain ⟨hc, rfl⟩ := h
    have : ¬ (t != 0 ∧ t != 2) := by
      rcases hc with hc | hc
      · cases BitVec.eq_of_toNat_eq (y := 0#8) hc; decide
      · cases BitVec.eq_of_toNat_eq (y := 2#8) hc; decide
    rw [MacPL.enc, if_neg this, rejoin02_pack]
  | rejoin1 t j d c =>
    simp only [Spec.payloadBytes, Option.ite_none_right_eq_some, Option.some.injEq] at h
    obtain ⟨hc, rfl⟩ := h
    cases BitVec.eq_of_toNat_eq (y := 1#8) hc
    rw [MacPL.enc, if_neg (by decide), rejoin1_pack]
  | data b =>
    cases Option.some.inj h
    rfl

theorem frame_layout (f : PHY) (sb : Bytes) (h : Spec.frameBytes f = some sb) : f.enc = ok sb := by
  unfold Spec.frameBytes at h
  cases hp : f.payload with
  | none => simp [hp] at h
  | some pl =>
    simp only [hp, Option.ite_none_right_eq_some, Option.map_eq_some_iff] at h
    obtain ⟨hc, b, hb, rfl⟩ := h
    simp only [PHY.enc, hp, payload_layout pl b hb, ok_bind]
    rw [mhdr_pack f.mtype f.major hc.1]

end LW.LayoutProofs
