/- C18: what each packed byte of the app-layer encoders decodes to; decode ∘ encode per payload, command, sequence; totality. -/
import LW.Spec.App
import LW.Proofs.Bits
namespace LW.App
open Outcome LW.Spec.App LW.Bits

/-- when a payload / a command may be followed by further bytes (hypotheses of C18_payload_roundtrip, C18_command_roundtrip) -/
def tailOK (v : AP) (rest : Bytes) : Prop := (restConsuming (some v) = true ∨ exactLength (some v) = true) → rest = []
def cmdTailOK (c : ACmd) (rest : Bytes) : Prop := (restConsuming c.payload = true ∨ exactLength c.payload = true) → rest = []

theorem le32_cons (x : Nat) : le32 x = [byteOfNat (x % 256), byteOfNat (x / 256 % 256), byteOfNat (x / 256 / 256 % 256), byteOfNat (x / 256 / 256 / 256 % 256)] := rfl
theorem le24_cons (x : Nat) : le24 x = [byteOfNat (x % 256), byteOfNat (x / 256 % 256), byteOfNat (x / 256 / 256 % 256)] := rfl
theorem le16_cons (x : Nat) : le16 x = [byteOfNat (x % 256), byteOfNat (x / 256 % 256)] := rfl

theorem leNat_le32 {x : Nat} (h : x < 2 ^ 32) :
    leNat [byteOfNat (x % 256), byteOfNat (x / 256 % 256), byteOfNat (x / 256 / 256 % 256), byteOfNat (x / 256 / 256 / 256 % 256)] = x :=
  leNat_leBytes_of_lt (k := 4) h
theorem leNat_le24 {x : Nat} (h : x < 2 ^ 24) :
    leNat [byteOfNat (x % 256), byteOfNat (x / 256 % 256), byteOfNat (x / 256 / 256 % 256)] = x :=
  leNat_leBytes_of_lt (k := 3) h
theorem leNat_le16 {x : Nat} (h : x < 2 ^ 16) :
    leNat [byteOfNat (x % 256), byteOfNat (x / 256 % 256)] = x :=
  leNat_leBytes_of_lt (k := 2) h

theorem int32_rt (c : Int) (h1 : -2147483648 ≤ c) (h2 : c < 2147483648) : intOfU32 (u32OfInt c) = c := by
  unfold intOfU32 u32OfInt; split <;> omega
theorem u32OfInt_lt (c : Int) : u32OfInt c < 2 ^ 32 := by unfold u32OfInt; omega

theorem lift2 {P : Byte → Byte → Prop} (n m : Nat) (key : ∀ (a : Fin n) (b : Fin m), P (BitVec.ofNat 8 a) (BitVec.ofNat 8 b))
    (x y : Byte) (hx : x.toNat < n) (hy : y.toNat < m) : P x y := by
  have := key ⟨x.toNat, hx⟩ ⟨y.toNat, hy⟩
  simpa using this

theorem lift1 {P : Byte → Prop} (n : Nat) (key : ∀ (a : Fin n), P (BitVec.ofNat 8 a)) (x : Byte) (hx : x.toNat < n) : P x := by
  have := key ⟨x.toNat, hx⟩
  simpa using this

theorem mask_rt (m : Mask4) : Mask4.ofByte m.byte = m := by
  rcases m with ⟨a, b, c, d⟩; cases a <;> cases b <;> cases c <;> cases d <;> decide

theorem appTimeReq_byte : ∀ k : Byte, k.toNat < 16 → ∀ a : Bool,
    (((k &&& 0x0f#8) ||| (if a then 0x10#8 else 0)) &&& 0x10#8 != 0) = a ∧ ((k &&& 0x0f#8) ||| (if a then 0x10#8 else 0)) &&& 0x0f#8 = k :=
  lift1 16 (by decide)
/-- clocksync.go masks the 3-bit NbTransmissions with `0x17` -/
theorem forceDeviceResyncReq_byte : ∀ k : Byte, k.toNat < 8 → (k &&& 0x17#8) &&& 0x17#8 = k := lift1 8 (by decide)
theorem flag1 : ∀ (n : Bool), (((if n then 1#8 else 0) &&& 1#8) != 0) = n := by decide
theorem id_flag4 : ∀ id : Byte, id.toNat < 4 → ∀ e : Bool,
    ((((id &&& 0x03#8) ||| (if e then 0x04#8 else 0)) &&& 0x04#8) != 0) = e ∧ ((id &&& 0x03#8) ||| (if e then 0x04#8 else 0)) &&& 0x03#8 = id :=
  lift1 4 (by decide)
theorem mcGroupStatusAns_byte (nb : Byte) (m : Mask4) (h : nb.toNat < 8) :
    Mask4.ofByte (m.byte ||| ((nb &&& 0x07#8) <<< 4)) = m ∧ ((m.byte ||| ((nb &&& 0x07#8) <<< 4)) &&& 0x70#8) >>> 4 = nb := by
  rcases m with ⟨a, b, c, d⟩
  revert a b c d
  revert nb
  exact lift1 8 (by decide)
theorem sessionAnsByte_fields : ∀ id : Byte, id.toNat < 4 → ∀ u f d : Bool,
    sessionAnsByte u f d id &&& 3#8 = id ∧ ((sessionAnsByte u f d id &&& 4#8) != 0) = d ∧
    ((sessionAnsByte u f d id &&& 8#8) != 0) = f ∧ ((sessionAnsByte u f d id &&& 16#8) != 0) = u :=
  lift1 4 (by decide)
theorem fragSessionSetupReq_byte0 (fi : Byte) (m : Mask4) (h : fi.toNat < 4) :
    ((m.byte ||| ((fi &&& 0x03#8) <<< 4)) >>> 4) &&& 0x03#8 = fi ∧ Mask4.ofByte (m.byte ||| ((fi &&& 0x03#8) <<< 4)) = m := by
  rcases m with ⟨a, b, c, d⟩
  revert a b c d
  revert fi
  exact lift1 4 (by decide)
theorem fragSessionSetupAns_byte : ∀ fi : Byte, fi.toNat < 4 → ∀ w i n e : Bool,
    let b := (if e then 0x01#8 else 0) ||| (if n then 0x02#8 else 0) ||| (if i then 0x04#8 else 0) ||| (if w then 0x08#8 else 0) ||| ((fi &&& 0x03#8) <<< 6)
    (b >>> 6) &&& 0x03#8 = fi ∧ ((b &&& 0x08#8) != 0) = w ∧ ((b &&& 0x04#8) != 0) = i ∧ ((b &&& 0x02#8) != 0) = n ∧ ((b &&& 0x01#8) != 0) = e :=
  lift1 4 (by decide)
theorem fragSessionStatusReq_byte : ∀ fi : Byte, fi.toNat < 4 → ∀ p : Bool,
    ((((if p then 0x01#8 else 0) ||| ((fi &&& 0x03#8) <<< 1)) >>> 1) &&& 0x03#8 = fi) ∧
    ((((if p then 0x01#8 else 0) ||| ((fi &&& 0x03#8) <<< 1)) &&& 0x01#8) != 0) = p :=
  lift1 4 (by decide)

/-- the high byte of a 14-bit counter shares its byte with the 2-bit fragment index -/
theorem counter14 (n : Nat) (fi : Byte) (hn : n < 2 ^ 14) (hf : fi.toNat < 4) :
    (byteOfNat (n % 16384 / 256) ||| ((fi &&& 0x03#8) <<< 6)) >>> 6 = fi ∧
    leNat [byteOfNat (n % 16384 % 256), byteOfNat (n % 16384 / 256) ||| ((fi &&& 0x03#8) <<< 6)] % 16384 = n := by
  have hh : (byteOfNat (n % 16384 / 256)).toNat < 2 ^ 6 := by simp [byteOfNat]; omega
  rw [and3 fi hf]
  refine ⟨or_shl_hi _ fi 6 (by decide) hh hf, ?_⟩
  simp only [leNat, toNat_or_shl _ fi 6 (by decide) hh hf]
  simp [byteOfNat]
  omega

theorem decItems_encItems (items : List (Byte × Bytes)) (h : itemsOK items = true) (rest : Bytes) :
    decItems items.length (encItems items ++ rest) = some items := by
  induction items with
  | nil => simp [decItems]
  | cons x xs ih =>
    obtain ⟨g, a⟩ := x
    simp only [itemsOK, w, Bool.and_eq_true, decide_eq_true_eq] at h
    obtain ⟨⟨hg, ha⟩, hxs⟩ := h
    match a, ha with
    | [a0, a1, a2, a3], _ =>
      simp [encItems, addrWire, decItems, ih hxs, and3 g hg]

theorem encItems_length (items : List (Byte × Bytes)) (h : itemsOK items = true) : (encItems items).length = 5 * items.length := by
  induction items with
  | nil => rfl
  | cons x xs ih =>
    simp only [itemsOK, w, Bool.and_eq_true, decide_eq_true_eq] at h
    simp [encItems, addrWire, ih h.2, h.1.2]; omega

theorem sessionAns_rt (mk : Bool → Bool → Bool → Byte → Option Nat → AP) (u f d : Bool) (id : Byte) (tts : Option Nat)
    (hid : id.toNat < 4) (hopt : (match tts with | none => hasError u f d | some t => !hasError u f d && wn t 24) = true) (rest : Bytes) :
    ∃ b, sessionAnsEnc u f d id tts = ok b ∧ b.length = (if hasError u f d then 1 else 4) ∧
      sessionAnsDec mk (b ++ rest) = ok (mk u f d id tts) := by
  have hb := sessionAnsByte_fields id hid u f d
  cases tts with
  | none =>
    refine ⟨[sessionAnsByte u f d id], ?_, ?_, ?_⟩
    · simp [sessionAnsEnc, hopt]
    · simp [hopt]
    · simp only [List.cons_append, List.nil_append, sessionAnsDec, hb, hopt, if_true]
  | some t =>
    simp only [wn, Bool.and_eq_true, Bool.not_eq_true', decide_eq_true_eq] at hopt
    refine ⟨sessionAnsByte u f d id :: le24 t, ?_, ?_, ?_⟩
    · simp [sessionAnsEnc, hopt.1]
    · simp [hopt.1, le24]
    · simp only [le24_cons, List.cons_append, List.nil_append, sessionAnsDec, hb, hopt.1, leNat_le24 hopt.2]
      simp

macro "iw" h:ident : tactic => `(tactic| simp only [inWidth, w, wn, Bool.and_eq_true, decide_eq_true_eq] at $h:ident)
-- the encoding as a literal byte list, on which the decoder's patterns compute
macro "expose" : tactic => `(tactic| simp only [le32_cons, le24_cons, le16_cons, List.cons_append, List.nil_append, List.append_assoc, AKind.dec, AP.kind])

theorem dec_enc (v : AP) (h : inWidth v = true) (rest : Bytes) (ht : tailOK v rest) :
    ∃ b, v.enc = ok b ∧ b.length = v.size ∧ v.kind.dec (b ++ rest) = ok v := by
  cases v
  case mcGroupStatusAns nb m items =>
    iw h
    obtain ⟨⟨hnb, hc⟩, hi⟩ := h
    have hl : ¬ items.length > 4 := by
      rcases m with ⟨a, b, c, d⟩
      cases a <;> cases b <;> cases c <;> cases d <;> simp [Mask4.count] at hc <;> omega
    refine ⟨(m.byte ||| ((nb &&& 0x07#8) <<< 4)) :: encItems items, ?_, ?_, ?_⟩
    · simp only [AP.enc, if_neg hl, hc, ne_eq, not_true_eq_false, if_false]
    · simp [AP.size, encItems_length items hi, hc]; omega
    · expose
      simp only [mcGroupStatusAns_byte nb m hnb, hc, decItems_encItems items hi rest]
  case mcGroupSetupReq id a k mn mx =>
    iw h
    obtain ⟨⟨⟨⟨hid, ha⟩, hk⟩, hmn⟩, hmx⟩ := h
    match a, ha with
    | [a0, a1, a2, a3], _ =>
      have hlen : ¬ ((id &&& 0x03#8) :: (addrWire [a0, a1, a2, a3] ++ k ++ le32 mn ++ le32 mx) ++ rest).length < 29 := by
        simp [addrWire, le32, hk]; omega
      -- the 16-byte key stays a variable: `drop` and `take` pass it by its length
      have d20 : ∀ l : Bytes, List.drop 20 (k ++ l) = List.drop 4 l := fun l => by
        rw [show 20 = 16 + 4 from rfl, ← List.drop_drop, List.drop_left' hk]
      refine ⟨_, rfl, by simp [AP.size, addrWire, le32, hk], ?_⟩
      simp only [AP.kind, AKind.dec, if_neg hlen]
      simp only [addrWire, List.reverse_cons, List.reverse_nil, le32_cons, List.cons_append, List.nil_append, List.append_assoc,
        List.drop_succ_cons, List.drop_zero, List.take_succ_cons, List.take_zero, List.take_left' hk, List.drop_left' hk, d20,
        List.headD_cons, and3 id hid, leNat_le32 hmn, leNat_le32 hmx]
  case mcClassCSessionReq id st t f dr =>
    iw h
    obtain ⟨⟨⟨⟨hid, hst⟩, ht'⟩, hf⟩, hf2⟩ := h
    refine ⟨(id &&& 0x03#8) :: (le32 st ++ [t &&& 0x0f#8] ++ le24 (f / 100) ++ [dr]), ?_, rfl, ?_⟩
    · simp [AP.enc, hf]
    · expose
      simp only [leNat_le32 hst, leNat_le24 hf2, and3 id hid, and15 t ht']
      congr 2; omega
  case mcClassBSessionReq id st p t f dr =>
    iw h
    obtain ⟨⟨⟨⟨⟨hid, hst⟩, hp⟩, ht'⟩, hf⟩, hf2⟩ := h
    refine ⟨(id &&& 0x03#8) :: (le32 st ++ [(t &&& 0x0f#8) ||| ((p &&& 0x07#8) <<< 4)] ++ le24 (f / 100) ++ [dr]), ?_, rfl, ?_⟩
    · simp [AP.enc, hf]
    · expose
      simp only [leNat_le32 hst, leNat_le24 hf2, and3 id hid, two_fields 0x0f#8 0x07#8 4 3 (by decide) rfl rfl ht' hp]
      congr 2; omega
  case mcClassCSessionAns u f d id tts =>
    iw h
    exact sessionAns_rt .mcClassCSessionAns u f d id tts h.1 h.2 rest
  case mcClassBSessionAns u f d id tts =>
    iw h
    exact sessionAns_rt .mcClassBSessionAns u f d id tts h.1 h.2 rest
  case fragSessionSetupReq fi m nb fs fm bad pad desc =>
    iw h
    obtain ⟨⟨⟨⟨hfi, hnb⟩, hfm⟩, hbad⟩, hd⟩ := h
    match desc, hd with
    | [d0, d1, d2, d3], _ =>
      refine ⟨_, rfl, rfl, ?_⟩
      expose
      simp only [leNat_le16 hnb, fragSessionSetupReq_byte0 fi m hfi, two_fields 0x07#8 0x07#8 3 3 (by decide) rfl rfl hbad hfm]
  case dataFragment fi n p =>
    iw h
    cases ht (Or.inl rfl)
    refine ⟨_, rfl, ?_, ?_⟩
    · simp [AP.size]; omega
    · expose
      simp only [counter14 n fi h.2 h.1, List.append_nil]
  case devVersionReq => cases ht (Or.inr rfl); exact ⟨_, rfl, rfl, rfl⟩
  case devUpgradeImageReq => cases ht (Or.inr rfl); exact ⟨_, rfl, rfl, rfl⟩
  case devDeleteImageReq v =>
    iw h
    cases ht (Or.inr rfl)
    refine ⟨_, rfl, rfl, ?_⟩
    expose
    simp only [leNat_le32 h]
  case devUpgradeImageAns s nx =>
    iw h
    obtain ⟨hs, hnx⟩ := h
    cases nx with
    | none =>
      simp only [bne_iff_ne, ne_eq] at hnx
      refine ⟨[s &&& 0x03#8], ?_, ?_, ?_⟩
      · simp [AP.enc, hnx]
      · simp [AP.size, hnx]
      · expose
        simp [and3 s hs, hnx]
    | some v =>
      simp only [Bool.and_eq_true, beq_iff_eq, decide_eq_true_eq] at hnx
      refine ⟨(s &&& 0x03#8) :: le32 v, ?_, ?_, ?_⟩
      · simp [AP.enc, hnx.1]
      · simp [AP.size, hnx.1, le32]
      · expose
        simp [hnx.1, leNat_le32 hnx.2]
  -- the other encoders give a literal list of `Size()` bytes
  all_goals
    iw h
    refine ⟨_, rfl, rfl, ?_⟩
    expose
  case appTimeReq t a k => simp only [leNat_le32 h.1, appTimeReq_byte k h.2 a]
  case appTimeAns c k => simp only [leNat_le32 (u32OfInt_lt c), int32_rt c h.1.1 h.1.2, and15 k h.2]
  case devAppTimePeriodicityReq p => simp only [and15 p h]
  case devAppTimePeriodicityAns n t => simp only [leNat_le32 h, flag1]
  case forceDeviceResyncReq n => simp only [forceDeviceResyncReq_byte n h]
  case mcGroupStatusReq m => simp only [mask_rt]
  case mcGroupSetupAns e id | mcGroupDeleteAns e id | fragSessionDeleteAns id e => simp only [id_flag4 id h e]
  case mcGroupDeleteReq id | fragSessionDeleteReq id => simp only [and3 id h]
  case fragSessionSetupAns fi wd i n e => simp only [fragSessionSetupAns_byte fi h wd i n e]
  case fragSessionStatusReq fi p => simp only [fragSessionStatusReq_byte fi h p]
  case fragSessionStatusAns fi nb mf ne => simp only [counter14 nb fi h.2 h.1, flag1]
  case devVersionAns f hw => simp only [leNat_le32 h.1, leNat_le32 h.2]
  case devRebootTimeReq t | devRebootTimeAns t => simp only [leNat_le32 h]
  case devRebootCountdownReq c | devRebootCountdownAns c => simp only [leNat_le24 h]
  case devDeleteImageAns iv nv => simp only [two_fields 0x01#8 0x01#8 1 1 (by decide) rfl rfl h.2 h.1]

theorem cmdOK_none {p : Pkg} {up : Bool} {cid : Byte} : cmdOK p up ⟨cid, none⟩ = true ↔ registry p up cid.toNat = none := by
  unfold cmdOK; cases registry p up cid.toNat <;> simp

theorem cmdOK_some {p : Pkg} {up : Bool} {cid : Byte} {v : AP} :
    cmdOK p up ⟨cid, some v⟩ = true ↔ registry p up cid.toNat = some v.kind ∧ inWidth v = true := by
  unfold cmdOK
  cases registry p up cid.toNat with
  | none => simp
  | some k => simp only [Bool.and_eq_true, beq_iff_eq, Option.some.injEq, eq_comm (a := k)]

theorem cmd_rt (p : Pkg) (up : Bool) (c : ACmd) (h : cmdOK p up c = true) (rest : Bytes) (ht : cmdTailOK c rest) :
    ∃ b, c.enc = ok b ∧ b.length = c.size ∧ cmdDec p up (b ++ rest) = ok c := by
  obtain ⟨cid, pl⟩ := c
  cases pl with
  | none =>
    refine ⟨[cid], rfl, rfl, ?_⟩
    simp only [List.cons_append, List.nil_append, cmdDec, cmdOK_none.mp h]
  | some v =>
    obtain ⟨hreg, hw⟩ := cmdOK_some.mp h
    obtain ⟨b, he, hl, hd⟩ := dec_enc v hw rest ht
    refine ⟨cid :: b, ?_, ?_, ?_⟩
    · show (do let b ← v.enc; ok (cid :: b) : Outcome Bytes) = _
      rw [he]; rfl
    · simp [ACmd.size, hl]
    · simp only [List.cons_append, cmdDec, hreg]
      rw [hd]; rfl

theorem ACmd.size_pos (c : ACmd) : 0 < c.size := by
  unfold ACmd.size; split <;> omega

theorem cmdsDecFuel_nil (p : Pkg) (up : Bool) (fuel : Nat) : cmdsDecFuel p up fuel [] = ok [] := by
  cases fuel <;> rfl

theorem cmdsDecFuel_cons (p : Pkg) (up : Bool) (fuel : Nat) (data : Bytes) (h : data ≠ []) :
    cmdsDecFuel p up (fuel + 1) data =
      (do let c ← cmdDec p up data; let rest ← cmdsDecFuel p up fuel (data.drop c.size); ok (c :: rest)) := by
  cases data with
  | nil => contradiction
  | cons x xs => rfl

theorem cmdsDecFuel_cmd {p : Pkg} {up : Bool} {c : ACmd} {b : Bytes} (h : cmdOK p up c = true) (he : c.enc = ok b)
    (rest : Bytes) (ht : cmdTailOK c rest) (fuel : Nat) :
    cmdsDecFuel p up (fuel + 1) (b ++ rest) = (do let r ← cmdsDecFuel p up fuel rest; ok (c :: r)) := by
  obtain ⟨b', he', hl, hd⟩ := cmd_rt p up c h rest ht
  cases ok.inj (he'.symm.trans he)
  have hpos := ACmd.size_pos c
  have hne : b ++ rest ≠ [] := List.ne_nil_of_length_pos (by rw [List.length_append]; omega)
  rw [cmdsDecFuel_cons p up fuel _ hne, hd, ok_bind, ← hl, List.drop_left]

theorem seqShape_cons {c : ACmd} {r : List ACmd} (h : seqShape (c :: r) = true) :
    seqShape r = true ∧ (r ≠ [] → restConsuming c.payload = false) := by
  cases r with
  | nil => exact ⟨rfl, fun h => absurd rfl h⟩
  | cons c' r' => simpa [seqShape, and_comm] using h

theorem noExactBeforeLast_cons {c : ACmd} {r : List ACmd} (h : noExactBeforeLast (c :: r) = true) :
    noExactBeforeLast r = true ∧ (r ≠ [] → exactLength c.payload = false) := by
  cases r with
  | nil => exact ⟨rfl, fun h => absurd rfl h⟩
  | cons c' r' => simpa [noExactBeforeLast, and_comm] using h

theorem seq_rt (p : Pkg) (up : Bool) (cs : List ACmd) (hok : seqOK p up cs = true) (hex : noExactBeforeLast cs = true) :
    ∃ b, cmdsEnc cs = ok b ∧ ∀ fuel, b.length ≤ fuel → cmdsDecFuel p up fuel b = ok cs := by
  induction cs with
  | nil => exact ⟨[], rfl, fun fuel _ => cmdsDecFuel_nil p up fuel⟩
  | cons c r ih =>
    simp only [seqOK, List.all_cons, Bool.and_eq_true] at hok
    obtain ⟨⟨hc, hr⟩, hs⟩ := hok
    obtain ⟨hs', hsc⟩ := seqShape_cons hs
    obtain ⟨hex', hexc⟩ := noExactBeforeLast_cons hex
    obtain ⟨br, hbr, hdec⟩ := ih (by simp only [seqOK, Bool.and_eq_true]; exact ⟨hr, hs'⟩) hex'
    have htail : cmdTailOK c br := by
      intro hh
      cases r with
      | nil => simpa [cmdsEnc] using hbr.symm
      | cons c' r' => simp [hsc, hexc] at hh
    obtain ⟨b, he, hl, -⟩ := cmd_rt p up c hc br htail
    refine ⟨b ++ br, ?_, ?_⟩
    · show (do let b ← c.enc; let rest ← cmdsEnc r; ok (b ++ rest) : Outcome Bytes) = _
      rw [he, hbr]; rfl
    · intro fuel hf
      have hpos := ACmd.size_pos c
      rw [List.length_append, hl] at hf
      obtain ⟨f, rfl⟩ : ∃ f, fuel = f + 1 := ⟨fuel - 1, by omega⟩
      rw [cmdsDecFuel_cmd hc he br htail, hdec f (by omega)]
      rfl

/-! each branch of a codec ends in `ok`, `err` or a codec shown total -/

theorem sessionAnsDec_ne_panic (mk) (d : Bytes) : sessionAnsDec mk d ≠ panic := by
  fun_cases sessionAnsDec mk d <;> simp

theorem dec_ne_panic (k : AKind) (d : Bytes) : k.dec d ≠ panic := by
  fun_cases AKind.dec k d <;> simp [sessionAnsDec_ne_panic]

theorem sessionAnsEnc_ne_panic (u f d id tts) : sessionAnsEnc u f d id tts ≠ panic := by
  fun_cases sessionAnsEnc u f d id tts <;> simp

theorem enc_ne_panic (v : AP) : v.enc ≠ panic := by
  fun_cases AP.enc v <;> simp [sessionAnsEnc_ne_panic]

theorem cmdEnc_ne_panic (c : ACmd) : c.enc ≠ panic := by
  fun_cases ACmd.enc c <;> simp [bind_ne_panic, enc_ne_panic]

theorem cmdDec_ne_panic (p up d) : cmdDec p up d ≠ panic := by
  fun_cases cmdDec p up d <;> simp [bind_ne_panic, dec_ne_panic]

/-- the fuel of the stream decoder is never exhausted -/
theorem cmdsDecFuel_ne_panic (p up) (fuel : Nat) (d : Bytes) (h : d.length ≤ fuel) : cmdsDecFuel p up fuel d ≠ panic := by
  induction fuel generalizing d with
  | zero => cases d with
    | nil => simp [cmdsDecFuel]
    | cons x xs => simp at h
  | succ fuel ih =>
    cases d with
    | nil => simp [cmdsDecFuel]
    | cons x xs =>
      rw [cmdsDecFuel_cons p up fuel _ (List.cons_ne_nil x xs), bind_ne_panic]
      refine ⟨cmdDec_ne_panic p up _, fun c _ => bind_ne_panic.mpr ⟨ih _ ?_, fun _ _ => by simp⟩⟩
      have := ACmd.size_pos c
      simp at h ⊢; omega

theorem exact_kind (v : AP) (h : exactLength (some v) = true) :
    v.kind = .devVersionReq ∨ v.kind = .devUpgradeImageReq ∨ v.kind = .devDeleteImageReq := by
  cases v <;> simp [exactLength, AP.kind] at h ⊢

theorem registry_high (p : Pkg) (up : Bool) (n : Nat) : registry p up (n + 9) = none := by
  cases p <;> cases up <;> rfl

theorem registry_low_no_exact : ∀ p ∈ [Pkg.cs, .mc, .fr], ∀ up ∈ [true, false], ∀ cid < 9,
    registry p up cid ≠ some .devVersionReq ∧ registry p up cid ≠ some .devUpgradeImageReq ∧ registry p up cid ≠ some .devDeleteImageReq := by
  decide

theorem cmdOK_not_exact (p : Pkg) (hp : p ≠ .fw) (up : Bool) (c : ACmd) (hc : cmdOK p up c = true) : exactLength c.payload = false := by
  obtain ⟨cid, pl⟩ := c
  cases pl with
  | none => rfl
  | some v =>
    cases hx : exactLength (some v) with
    | false => rfl
    | true =>
      obtain ⟨hreg, -⟩ := cmdOK_some.mp hc
      have hcid : cid.toNat < 9 := by
        refine Nat.lt_of_not_le fun h => ?_
        obtain ⟨n, hn⟩ := Nat.exists_eq_add_of_le' h
        rw [hn, registry_high] at hreg; cases hreg
      have hp' : p ∈ [Pkg.cs, .mc, .fr] := by cases p <;> simp at hp ⊢
      have hup : up ∈ [true, false] := by cases up <;> simp
      have := registry_low_no_exact p hp' up hup cid.toNat hcid
      rw [hreg] at this
      rcases exact_kind v hx with hk | hk | hk <;> simp [hk] at this

theorem noExactBeforeLast_of_all (cs : List ACmd) (h : ∀ c ∈ cs, exactLength c.payload = false) : noExactBeforeLast cs = true := by
  induction cs with
  | nil => rfl
  | cons c r ih =>
    cases r with
    | nil => rfl
    | cons c' r' =>
      simp only [noExactBeforeLast, Bool.and_eq_true, Bool.not_eq_true']
      exact ⟨h c (by simp), ih (fun x hx => h x (by simp [hx]))⟩

end LW.App
