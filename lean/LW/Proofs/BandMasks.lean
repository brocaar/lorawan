/-
  LW.Proofs.BandMasks — `getCFListChannelMask` bit by bit: the mask of a block of channels, and which channels block j holds.
-/
import LW.Model.Band
import LW.Proofs.Bits
namespace LW.BandMasks

/-- what a loop adding 2 ^ i for every i < n with p i accumulates -/
def bitSum (p : Nat → Bool) (n : Nat) : Nat :=
  (List.range n).foldl (fun acc i => if p i then acc + 2 ^ i else acc) 0

theorem bitSum_succ (p : Nat → Bool) (n : Nat) : bitSum p (n + 1) = if p n then bitSum p n + 2 ^ n else bitSum p n := by
  simp [bitSum, List.range_succ, List.foldl_append]

theorem bitSum_lt (p : Nat → Bool) (n : Nat) : bitSum p n < 2 ^ n := by
  induction n with
  | zero => simp [bitSum]
  | succ n ih =>
    rw [bitSum_succ]
    split <;> omega

theorem bitSum_testBit (p : Nat → Bool) (n k : Nat) : (bitSum p n).testBit k = (decide (k < n) && p k) := by
  induction n with
  | zero => simp [bitSum]
  | succ n ih =>
    -- the sum so far is below 2 ^ n, so adding 2 ^ n is OR-ing it in
    have hor : bitSum p n + 2 ^ n = bitSum p n ||| 2 ^ n := by simpa using (Bits.or_two_pow_mul (bitSum_lt p n) 1).symm
    rw [bitSum_succ]
    by_cases hk : k = n
    · subst hk
      split
      · rename_i he; simpa [hor, ih] using he
      · rename_i he; simpa [hor, ih] using he
    · have : decide (k < n + 1) = decide (k < n) := by simp; omega
      split <;> simp [hor, ih, this, Ne.symm hk]

theorem maskOf_bit (cs : List Channel) (i : Nat) (hi : i < 16) :
    (maskOf cs).getLsbD i = (decide (i < cs.length) && (cs.getD i default).enabled) := by
  show (BitVec.ofNat 16 (bitSum (fun i => (cs.getD i default).enabled) cs.length)).getLsbD i = _
  rw [BitVec.getLsbD_ofNat, bitSum_testBit, decide_eq_true hi, Bool.true_and]

theorem maskOf_chunk_bit (l : List Channel) (j i : Nat) (hi : i < 16) (h : 16 * j + i < l.length) :
    (maskOf ((l.drop (16 * j)).take 16)).getLsbD i = (l.getD (16 * j + i) default).enabled := by
  have hlen : i < ((l.drop (16 * j)).take 16).length := by simp; omega
  rw [maskOf_bit _ i hi, decide_eq_true hlen, Bool.true_and, List.getD_eq_getElem?_getD, List.getD_eq_getElem?_getD,
    List.getElem?_take_of_lt hi, List.getElem?_drop]

theorem chunks16_get (fuel : Nat) (l : List Channel) (j : Nat) (hj : 16 * j < l.length) (hf : j < fuel) :
    (chunks16 fuel l)[j]? = some ((l.drop (16 * j)).take 16) := by
  induction fuel generalizing l j with
  | zero => omega
  | succ fuel ih =>
    have hne : l.isEmpty = false := by
      cases l with
      | nil => simp at hj
      | cons _ _ => rfl
    simp only [chunks16, hne, Bool.false_eq_true, if_false]
    cases j with
    | zero => simp
    | succ j =>
      rw [List.getElem?_cons_succ, ih (l.drop 16) j (by rw [List.length_drop]; omega) (by omega), List.drop_drop]
      have : 16 + 16 * j = 16 * (j + 1) := by omega
      rw [this]

end LW.BandMasks
