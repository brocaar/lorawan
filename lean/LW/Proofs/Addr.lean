/- DevAddr / NetID prefix algebra, bit by bit; hex text never starts with "0x". -/
import LW.Model.NetID
import LW.Spec.Addr
namespace LW.AddrProofs

/-- bit view of `setAddrPrefixRaw`, for any prefix length and NwkID width that fit -/
theorem raw_bit (a : BitVec 32) (pl nb : Nat) (n : BitVec 24) (i : Nat) (hi : i < 32) (h : pl + nb ≤ 32) :
    (setAddrPrefixRaw a pl nb n).getLsbD i =
      if i < 32 - pl - nb then a.getLsbD i
      else if i < 32 - pl then (netIDID n).getLsbD (i - (32 - pl - nb))
      else (254#32).getLsbD (i - (32 - pl)) := by
  have ones : (0xffffffff#32) = BitVec.allOnes 32 := by decide
  simp only [setAddrPrefixRaw, ones, BitVec.getLsbD_or, BitVec.getLsbD_and, BitVec.getLsbD_not, BitVec.getLsbD_shiftLeft,
    BitVec.getLsbD_ushiftRight, BitVec.getLsbD_allOnes]
  by_cases h1 : i < 32 - pl - nb
  · have e2 : i < 32 - pl := by omega
    have e3 : pl + i < 32 - nb := by omega
    have e4 : pl + i < 32 := by omega
    simp [hi, h1, e2, e3, e4]
  · by_cases h2 : i < 32 - pl
    · have e3 : ¬ (pl + i < 32 - nb) := by omega
      have e4 : pl + i < 32 := by omega
      have e6 : pl + i - (32 - nb) = i - (32 - pl - nb) := by omega
      have e7 : ¬ 32 ≤ i - (32 - pl - nb) := by omega
      simp [hi, h1, h2, e3, e4, e6, e7]
    · have e4 : ¬ (pl + i < 32) := by omega
      have e7 : ¬ 32 ≤ i - (32 - pl - nb) := by omega
      simp [hi, h1, h2, e4, e7]

theorem typePrefix_testBit (t m : Nat) : (Spec.typePrefix t).testBit m = decide (m ≠ 0 ∧ m ≤ t) := by
  have e : Spec.typePrefix t = 2 ^ 1 * (2 ^ t - 1) := by
    have := Nat.two_pow_pos t
    rw [Spec.typePrefix]; omega
  rw [e, Nat.testBit_two_pow_mul, Nat.testBit_two_pow_sub_one, ← Bool.decide_and]
  exact decide_eq_decide.mpr (by omega)

/-- the literal `0xfe` of fhdr.go is the longest type prefix; shifted left it loses its leading ones -/
theorem lit254_bit (k : Nat) : (254#32).getLsbD k = decide (1 ≤ k ∧ k < 8) := by
  rw [BitVec.getLsbD_ofNat, show (254 : Nat) = Spec.typePrefix 7 from rfl, typePrefix_testBit, ← Bool.decide_and]
  exact decide_eq_decide.mpr (by omega)

theorem getID_bit (n : BitVec 24) (bits j : Nat) (hj : j < 32) :
    (netIDgetID n bits).getLsbD j = (decide (j < bits) && n.getLsbD j) := by
  simp only [netIDgetID, BitVec.getLsbD_ushiftRight, BitVec.getLsbD_shiftLeft, BitVec.getLsbD_setWidth]
  by_cases h1 : j < bits
  · have e1 : 32 - bits + j < 32 := by omega
    have e2 : ¬ (32 - bits + j < 32 - bits) := by omega
    have e3 : 32 - bits + j - (32 - bits) = j := by omega
    simp [h1, e1, e2, e3, hj]
  · have e1 : ¬ (32 - bits + j < 32) := by omega
    simp [h1, e1]

theorem netIDType_eq (n : BitVec 24) : netIDType n = n.toNat / 2 ^ 21 := by
  simp [netIDType, BitVec.toNat_ushiftRight, Nat.shiftRight_eq_div_pow]

theorem netIDType_lt (n : BitVec 24) : netIDType n < 8 := by
  rw [netIDType_eq]; have := n.isLt; omega

theorem prefixTable_spec : ∀ t < 8, prefixTable t = (t + 1, Spec.nwkIDWidth t) := by decide

theorem idBits_spec : ∀ t < 8, netIDIdBits t = Spec.netIDWidth t := by decide

theorem widths (t : Nat) (ht : t < 8) : t + 1 + Spec.nwkIDWidth t ≤ 25 ∧ Spec.nwkIDWidth t ≤ Spec.netIDWidth t ∧ Spec.netIDWidth t ≤ 21 ∧ 6 ≤ Spec.nwkIDWidth t := by
  revert t; decide

theorem strip0x_hex (bs : Bytes) : strip0x (bs.flatMap hexOfByte) = bs.flatMap hexOfByte := by
  have hne := flatMap_hexOfByte_ne_0x bs
  unfold strip0x
  split
  · rename_i rest heq; exact absurd heq (hne rest)
  · rfl

end LW.AddrProofs
