/-
  LW.Proofs.Pack — `Spec.pack` / `Spec.unpack` / `Spec.fieldOf` on any layout table, in three parts.
  The round trip: `unpack ∘ pack = id` for every table whose fields are pairwise disjoint and lie inside the payload, on
  values that fit their widths. Bits are the right language: writing a value into a field that is still zero changes
  exactly the bits of that field, so no carry ever crosses a field boundary.
  Reading: a field of the payload integer, read from the bytes one byte at a time (`fieldOf_cons_*`).
  Writing: a table whose low fields fill whole bytes is taken apart from the low bytes upwards (`pack_cons_bytes`, `pack_take`).
-/
import LW.Spec.Mac
namespace LW.Pack
open Spec

theorem testBit_fieldOf (n : Nat) (f : Field) (i : Nat) :
    (fieldOf n f).testBit i = (decide (i < f.width) && n.testBit (i + f.off)) := by
  simp only [fieldOf, Nat.testBit_mod_two_pow, Nat.testBit_div_two_pow]

theorem fieldOf_zero (f : Field) : fieldOf 0 f = 0 := by
  rw [fieldOf, Nat.zero_div, Nat.zero_mod]

/-- `x` written into the field `f` of `p`, which is still zero there -/
theorem testBit_insert {x p : Nat} {f : Field} (hx : x < 2 ^ f.width) (hc : fieldOf p f = 0) (j : Nat) :
    (x * 2 ^ f.off + p).testBit j = if f.off ≤ j ∧ j < f.off + f.width then x.testBit (j - f.off) else p.testBit j := by
  -- `p` is a low part below the field, nothing in it, and a high part above it
  have hp : x * 2 ^ f.off + p = 2 ^ f.off * (2 ^ f.width * (p / 2 ^ f.off / 2 ^ f.width) + x) + p % 2 ^ f.off := by
    have h1 := Nat.div_add_mod p (2 ^ f.off)
    have h2 := Nat.div_add_mod (p / 2 ^ f.off) (2 ^ f.width)
    rw [show p / 2 ^ f.off % 2 ^ f.width = 0 from hc, Nat.add_zero] at h2
    rw [h2, Nat.mul_add, Nat.mul_comm x, Nat.add_assoc, Nat.add_left_comm, h1, Nat.add_comm]
  rw [hp, Nat.testBit_two_pow_mul_add _ (Nat.mod_lt _ (Nat.two_pow_pos _))]
  by_cases h1 : j < f.off
  · rw [if_pos h1, if_neg (by omega), Nat.testBit_mod_two_pow]; simp [h1]
  · rw [if_neg h1, Nat.testBit_two_pow_mul_add _ hx]
    by_cases h2 : j - f.off < f.width
    · rw [if_pos h2, if_pos (by omega)]
    · rw [if_neg h2, if_neg (by omega), Nat.testBit_div_two_pow, Nat.testBit_div_two_pow]
      congr 1; omega

theorem fieldOf_insert_self {x p : Nat} {f : Field} (hx : x < 2 ^ f.width) (hc : fieldOf p f = 0) :
    fieldOf (x * 2 ^ f.off + p) f = x := by
  apply Nat.eq_of_testBit_eq
  intro i
  rw [testBit_fieldOf, testBit_insert hx hc]
  by_cases hi : i < f.width
  · rw [if_pos (by omega)]; simp [hi]
  · have : x.testBit i = false :=
      Nat.testBit_lt_two_pow (Nat.lt_of_lt_of_le hx (Nat.pow_le_pow_right (by omega) (by omega)))
    simp [hi, this]

abbrev Disjoint (f g : Field) : Prop := f.off + f.width ≤ g.off ∨ g.off + g.width ≤ f.off

theorem fieldOf_insert_other {x p : Nat} {f g : Field} (hx : x < 2 ^ f.width) (hc : fieldOf p f = 0) (hd : Disjoint g f) :
    fieldOf (x * 2 ^ f.off + p) g = fieldOf p g := by
  apply Nat.eq_of_testBit_eq
  intro i
  rw [testBit_fieldOf, testBit_fieldOf, testBit_insert hx hc]
  by_cases hi : i < g.width
  · rw [if_neg (by omega)]
  · simp [hi]

/-- one value per field, each below `2 ^ width` -/
def Fits : List Field → List Nat → Prop
  | [], [] => True
  | f :: fs, v :: vs => v < 2 ^ f.width ∧ Fits fs vs
  | _, _ => False

/-- a layout for `size` bytes: no two fields overlap, none reaches beyond the last byte -/
abbrev WF (size : Nat) (fs : List Field) : Prop := fs.Pairwise Disjoint ∧ ∀ f ∈ fs, f.off + f.width ≤ 8 * size

theorem fieldOf_packNat_zero (fs : List Field) : ∀ (vs : List Nat) (f : Field), (∀ g ∈ fs, Disjoint f g) → fs.Pairwise Disjoint →
    fieldOf (packNat fs vs) f = 0 := by
  induction fs with
  | nil => intro vs f _ _; cases vs <;> exact fieldOf_zero f
  | cons g gs ih =>
    intro vs f hf hp
    cases vs with
    | nil => exact fieldOf_zero f
    | cons v vs =>
      rw [List.pairwise_cons] at hp
      rw [packNat, fieldOf_insert_other (Nat.mod_lt _ (Nat.two_pow_pos _)) (ih vs g hp.1 hp.2) (hf g List.mem_cons_self)]
      exact ih vs f (fun g' hg' => hf g' (List.mem_cons_of_mem _ hg')) hp.2

theorem map_fieldOf_packNat (fs : List Field) :
    ∀ vs, fs.Pairwise Disjoint → Fits fs vs → fs.map (fieldOf (packNat fs vs)) = vs := by
  induction fs with
  | nil => intro vs _ hf; cases vs with | nil => rfl | cons _ _ => exact hf.elim
  | cons f fs ih =>
    intro vs hp hf
    cases vs with
    | nil => exact hf.elim
    | cons v vs =>
      rw [List.pairwise_cons] at hp
      have hz := fieldOf_packNat_zero fs vs f hp.1 hp.2
      rw [List.map_cons, packNat, Nat.mod_eq_of_lt hf.1, fieldOf_insert_self hf.1 hz,
        List.map_congr_left (fun g hg => fieldOf_insert_other hf.1 hz (hp.1 g hg |>.symm)), ih vs hp.2 hf.2]

theorem fieldOf_mod (n b : Nat) (f : Field) (h : f.off + f.width ≤ b) : fieldOf (n % 2 ^ b) f = fieldOf n f := by
  apply Nat.eq_of_testBit_eq
  intro i
  rw [testBit_fieldOf, testBit_fieldOf, Nat.testBit_mod_two_pow]
  by_cases hi : i < f.width
  · simp [show i + f.off < b by omega]
  · simp [hi]

theorem pack_length (size : Nat) (fs : List Field) (vs : List Nat) : (pack size fs vs).length = size := leBytes_length ..

theorem unpack_pack {size : Nat} {fs : List Field} {vs : List Nat} (hw : WF size fs) (hf : Fits fs vs) :
    unpack fs (pack size fs vs) = vs := by
  unfold unpack pack
  rw [leNat_leBytes, show (256 : Nat) ^ size = 2 ^ (8 * size) by rw [Nat.pow_mul],
    List.map_congr_left (fun f hf => fieldOf_mod _ _ f (hw.2 f hf))]
  exact map_fieldOf_packNat fs vs hw.1 hf

theorem fieldOf_cons_skip (b : Byte) (bs : Bytes) (o w : Nat) :
    fieldOf (leNat (b :: bs)) ⟨o + 8, w⟩ = fieldOf (leNat bs) ⟨o, w⟩ := by
  have := b.isLt
  simp only [fieldOf, leNat, Nat.pow_add]
  rw [← Nat.div_div_eq_div_mul, Nat.div_div_eq_div_mul _ (2 ^ o), Nat.mul_comm (2 ^ o),
    ← Nat.div_div_eq_div_mul]
  congr 2
  omega

theorem fieldOf_cons_low (b : Byte) (bs : Bytes) (o w : Nat) (h : o + w ≤ 8) :
    fieldOf (leNat (b :: bs)) ⟨o, w⟩ = b.toNat / 2 ^ o % 2 ^ w := by
  apply Nat.eq_of_testBit_eq
  intro i
  simp only [fieldOf, leNat, Nat.testBit_mod_two_pow, Nat.testBit_div_two_pow]
  by_cases hi : i < w
  · rw [Nat.add_comm, Nat.testBit_two_pow_mul_add _ b.isLt, if_pos (by omega)]
  · simp [hi]

theorem fieldOf_cons_wide (b : Byte) (bs : Bytes) (w : Nat) :
    fieldOf (leNat (b :: bs)) ⟨0, w + 9⟩ = b.toNat + 256 * fieldOf (leNat bs) ⟨0, w + 1⟩ := by
  have := b.isLt
  simp only [fieldOf, leNat, Nat.pow_zero, Nat.div_one]
  rw [show w + 9 = (w + 1) + 8 from rfl, Nat.pow_add, Nat.mul_comm (2 ^ (w + 1)),
    Nat.mod_mul, show (b.toNat + 256 * leNat bs) % 256 = b.toNat by omega,
    show (b.toNat + 256 * leNat bs) / 256 = leNat bs by omega]

def shift (o : Nat) (f : Field) : Field := ⟨f.off + o, f.width⟩

theorem packNat_shift (o : Nat) (fs : List Field) (vs : List Nat) :
    packNat (fs.map (shift o)) vs = 2 ^ o * packNat fs vs := by
  induction fs generalizing vs with
  | nil => simp [packNat]
  | cons f fs ih =>
    cases vs with
    | nil => simp [packNat]
    | cons v vs =>
      simp only [List.map_cons, packNat, ih, shift, Nat.pow_add, Nat.mul_add]
      rw [← Nat.mul_assoc, Nat.mul_comm (2 ^ o) (v % 2 ^ f.width * 2 ^ f.off)]

theorem packNat_append (fs₁ fs₂ : List Field) (vs₁ vs₂ : List Nat) (h : fs₁.length = vs₁.length) :
    packNat (fs₁ ++ fs₂) (vs₁ ++ vs₂) = packNat fs₁ vs₁ + packNat fs₂ vs₂ := by
  induction fs₁ generalizing vs₁ with
  | nil =>
    cases vs₁ with
    | nil => simp [packNat]
    | cons _ _ => simp at h
  | cons f fs ih =>
    cases vs₁ with
    | nil => simp at h
    | cons v vs => simp only [List.cons_append, packNat, ih vs (by simpa using h), Nat.add_assoc]

/-- layouts concatenate: fields inside the low `a` bytes, then a layout for the following `b` bytes moved up by `8a` bits -/
theorem pack_append (a b : Nat) (fs₁ fs₂ : List Field) (vs₁ vs₂ : List Nat) (h : fs₁.length = vs₁.length)
    (hlt : packNat fs₁ vs₁ < 256 ^ a) :
    pack (a + b) (fs₁ ++ fs₂.map (shift (8 * a))) (vs₁ ++ vs₂) = pack a fs₁ vs₁ ++ pack b fs₂ vs₂ := by
  rw [pack, packNat_append _ _ _ _ h, packNat_shift, Nat.pow_mul, leBytes_append a b _ _ hlt]
  rfl

theorem pack_bytes (k v : Nat) : pack k [⟨0, 8 * k⟩] [v] = leBytes k v := by
  simp only [pack, packNat, Nat.pow_zero, Nat.mul_one, Nat.add_zero, Nat.pow_mul, show (2 : Nat) ^ 8 = 256 from rfl,
    leBytes_mod]

/-- the field `f` moved down by `o` bits -/
def unshift (o : Nat) (f : Field) : Field := ⟨f.off - o, f.width⟩

theorem map_shift_unshift (o : Nat) (fs : List Field) (h : ∀ f ∈ fs, o ≤ f.off) : (fs.map (unshift o)).map (shift o) = fs := by
  rw [List.map_map]
  conv => rhs; rw [← List.map_id fs]
  apply List.map_congr_left
  intro f hf
  have := h f hf
  simp only [Function.comp, shift, unshift, id] at this ⊢
  congr 1
  omega

/-- `pack_append` in the direction it is used on a table given as a literal: the low `a` bytes hold the first `m` fields,
what remains is the table for the other bytes, read from bit 0 -/
theorem pack_take (a m : Nat) {n : Nat} {fs : List Field} {vs : List Nat} (hn : a ≤ n) (hm : m ≤ fs.length) (hmv : m ≤ vs.length)
    (hlt : packNat (fs.take m) (vs.take m) < 256 ^ a) (hfs : ∀ f ∈ fs.drop m, 8 * a ≤ f.off) :
    pack n fs vs = pack a (fs.take m) (vs.take m) ++ pack (n - a) ((fs.drop m).map (unshift (8 * a))) (vs.drop m) := by
  have := pack_append a (n - a) (fs.take m) ((fs.drop m).map (unshift (8 * a))) (vs.take m) (vs.drop m)
    (by rw [List.length_take, List.length_take]; omega) hlt
  rwa [map_shift_unshift _ _ hfs, Nat.add_sub_cancel' hn, List.take_append_drop, List.take_append_drop] at this

/-- a first field filling whole bytes; `simp (disch := decide)` peels such fields off a literal table one after the other -/
theorem pack_cons_bytes {n w : Nat} {fs : List Field} (v : Nat) (vs : List Nat) (hw : w % 8 = 0) (hn : w / 8 ≤ n)
    (hfs : ∀ f ∈ fs, w ≤ f.off) :
    pack n (⟨0, w⟩ :: fs) (v :: vs) = leBytes (w / 8) v ++ pack (n - w / 8) (fs.map (unshift w)) vs := by
  have hk : w = 8 * (w / 8) := by omega
  generalize w / 8 = k at hn hk ⊢
  subst hk
  have hlt : packNat [⟨0, 8 * k⟩] [v] < 256 ^ k := by
    simp only [packNat, Nat.pow_zero, Nat.mul_one, Nat.add_zero, Nat.pow_mul, show (2 : Nat) ^ 8 = 256 from rfl]
    exact Nat.mod_lt _ (Nat.pow_pos (by decide))
  have := pack_take k 1 (fs := ⟨0, 8 * k⟩ :: fs) (vs := v :: vs) hn (by simp) (by simp) hlt hfs
  rwa [List.take_succ_cons, List.take_zero, List.take_succ_cons, List.take_zero, pack_bytes] at this

theorem pack_nil (vs : List Nat) : pack 0 [] vs = [] := rfl

/-- one byte holding several fields, or a field narrower than the byte: it is the byte `b` the model writes as soon as the numbers agree -/
theorem pack_one (fs : List Field) (vs : List Nat) (b : Byte) (h : packNat fs vs % 256 = b.toNat) : pack 1 fs vs = [b] :=
  leBytes_eq rfl (by rw [leNat_singleton, Nat.pow_one]; exact h.symm)

end LW.Pack
