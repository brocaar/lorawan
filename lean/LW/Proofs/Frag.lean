/-
  LW.Proofs.Frag — the fragmentation encoder's output (C19): the data cut into rows, followed by every parity line applied to
  those rows. The lines (`linesOf`) depend on the number of rows and the redundancy only: the encoder multiplies the rows by a
  fixed matrix, which makes it linear and lets a receiver recover (LW.Proofs.FragRecover).
-/
import LW.Model.Frag
import LW.Spec.Frag
namespace LW.FragProofs
open Outcome

theorem rowsOf_length (k size : Nat) (data : Bytes) : (rowsOf k size data).length = k := by
  induction k generalizing data with
  | zero => rfl
  | succ k ih => simp [rowsOf, ih]

theorem rowsOf_flatten (k size : Nat) (data : Bytes) (h : data.length = k * size) : (rowsOf k size data).flatten = data := by
  induction k generalizing data with
  | zero =>
    have : data = [] := List.eq_nil_of_length_eq_zero (by simpa using h)
    subst this; rfl
  | succ k ih =>
    simp only [rowsOf, List.flatten_cons]
    rw [ih (data.drop size) (by rw [List.length_drop, h]; rw [Nat.succ_mul]; omega), List.take_append_drop]

theorem rowsOf_row_length (k size : Nat) (data : Bytes) (h : data.length = k * size) : ∀ r ∈ rowsOf k size data, r.length = size := by
  induction k generalizing data with
  | zero => intro r hr; simp [rowsOf] at hr
  | succ k ih =>
    intro r hr
    simp only [rowsOf, List.mem_cons] at hr
    rcases hr with rfl | hr
    · rw [List.length_take, h, Nat.succ_mul]; omega
    · exact ih (data.drop size) (by rw [List.length_drop, h, Nat.succ_mul]; omega) r hr

/-- the parity lines y+1 … y+k for `w` data fragments -/
def linesOf (line : Nat → Nat → Option (List Bool)) (w : Nat) : Nat → Nat → Option (List (List Bool))
  | 0, _ => some []
  | k+1, y =>
    match line (y + 1) w with
    | some l => (linesOf line w k (y + 1)).map (l :: ·)
    | none => none

theorem parityRows_eq (line : Nat → Nat → Option (List Bool)) (size w : Nat) (rows : List Bytes) (k y : Nat) :
    parityRows line size w rows k y = (linesOf line w k y).map (·.map (xorSelected size · rows)) := by
  induction k generalizing y with
  | zero => rfl
  | succ k ih =>
    simp only [parityRows, linesOf, ih]
    cases line (y + 1) w with
    | none => rfl
    | some l => cases linesOf line w k (y + 1) <;> rfl

theorem linesOf_spec (line : Nat → Nat → Option (List Bool)) (w k y : Nat) (ls : List (List Bool)) (h : linesOf line w k y = some ls) :
    ls.length = k ∧ ∀ j, j < k → ls[j]? = line (y + j + 1) w := by
  induction k generalizing y ls with
  | zero => cases h; exact ⟨rfl, fun j hj => by omega⟩
  | succ k ih =>
    simp only [linesOf] at h
    cases hl : line (y + 1) w with
    | none => simp [hl] at h
    | some l =>
      simp only [hl, Option.map_eq_some_iff] at h
      obtain ⟨rest, hr, rfl⟩ := h
      obtain ⟨h1, h2⟩ := ih (y + 1) rest hr
      refine ⟨by simp [h1], fun j hj => ?_⟩
      cases j with
      | zero => simpa using hl.symm
      | succ j => rw [List.getElem?_cons_succ, h2 j (by omega)]; congr 1; omega

theorem linesOf_isSome (line : Nat → Nat → Option (List Bool)) (hline : ∀ n m, (line n m).isSome) (w k y : Nat) :
    (linesOf line w k y).isSome := by
  induction k generalizing y with
  | zero => rfl
  | succ k ih =>
    simp only [linesOf]
    cases hl : line (y + 1) w with
    | none => have := hline (y + 1) w; simp [hl] at this
    | some l => simp only [Option.isSome_map]; exact ih (y + 1)

theorem encodeWith_eq_ok {line : Nat → Nat → Option (List Bool)} {data : Bytes} {size red : Int} {out : List Bytes} :
    encodeWith line data size red = ok out ↔ 0 < size ∧ data.length % size.toNat = 0 ∧
      ∃ ls, linesOf line (data.length / size.toNat) red.toNat 0 = some ls ∧
        out = rowsOf (data.length / size.toNat) size.toNat data ++
          ls.map (xorSelected size.toNat · (rowsOf (data.length / size.toNat) size.toNat data)) := by
  simp only [encodeWith, parityRows_eq, ite_err_eq_ok, Int.not_le, bne_iff_ne, ne_eq, Decidable.not_not]
  cases linesOf line (data.length / size.toNat) red.toNat 0 with
  | none => simp
  | some ls => simp [eq_comm]

theorem length_eq_rows_mul (data : Bytes) (size : Nat) (h : data.length % size = 0) : data.length = data.length / size * size :=
  (Nat.div_mul_cancel (Nat.dvd_of_mod_eq_zero h)).symm

/-- the rows the encoder cuts all have `size` bytes (`h` is what `encodeWith_eq_ok` hands out) -/
theorem rowsOf_row_length_div {data : Bytes} {size : Nat} (h : data.length % size = 0) :
    ∀ r ∈ rowsOf (data.length / size) size data, r.length = size :=
  rowsOf_row_length _ _ data (length_eq_rows_mul data size h)

/-! A successful encoding read by index: `out[t]?` for a data fragment, `out[w + y]?` for parity fragment `y`. -/

theorem encodeWith_length {line : Nat → Nat → Option (List Bool)} {data : Bytes} {size red : Int} {out : List Bytes}
    (h : encodeWith line data size red = ok out) : out.length = data.length / size.toNat + red.toNat := by
  obtain ⟨-, -, ls, hls, rfl⟩ := encodeWith_eq_ok.mp h
  rw [List.length_append, rowsOf_length, List.length_map, (linesOf_spec line _ _ 0 ls hls).1]

theorem encodeWith_data {line : Nat → Nat → Option (List Bool)} {data : Bytes} {size red : Int} {out : List Bytes}
    (h : encodeWith line data size red = ok out) {t : Nat} (ht : t < data.length / size.toNat) :
    out[t]? = (rowsOf (data.length / size.toNat) size.toNat data)[t]? := by
  obtain ⟨-, -, ls, -, rfl⟩ := encodeWith_eq_ok.mp h
  exact List.getElem?_append_left (by rw [rowsOf_length]; exact ht)

theorem encodeWith_parity {line : Nat → Nat → Option (List Bool)} {data : Bytes} {size red : Int} {out : List Bytes}
    (h : encodeWith line data size red = ok out) {y : Nat} (hy : y < red.toNat) :
    ∃ l, line (y + 1) (data.length / size.toNat) = some l ∧
      out[data.length / size.toNat + y]? = some (xorSelected size.toNat l (rowsOf (data.length / size.toNat) size.toNat data)) := by
  obtain ⟨-, -, ls, hls, rfl⟩ := encodeWith_eq_ok.mp h
  obtain ⟨hlen, hget⟩ := linesOf_spec line _ _ 0 ls hls
  have hl := hget y hy
  rw [Nat.zero_add, List.getElem?_eq_getElem (by omega)] at hl
  refine ⟨ls[y], hl.symm, ?_⟩
  rw [List.getElem?_append_right (by rw [rowsOf_length]; omega), rowsOf_length, Nat.add_sub_cancel_left, List.getElem?_map,
    List.getElem?_eq_getElem (by omega)]
  rfl

theorem prbs23_spec (x : Nat) : prbs23 x = Spec.prbs23 x := by
  unfold prbs23 Spec.prbs23
  rw [Nat.shiftRight_eq_div_pow, Nat.shiftRight_eq_div_pow, Nat.shiftLeft_eq, Nat.and_one_is_mod, Nat.and_one_is_mod]

theorem drawCoeff_spec (m md fuel x : Nat) : drawCoeff m md fuel x = Spec.drawCoeff m md fuel x := by
  induction fuel generalizing x with
  | zero => rfl
  | succ f ih => simp only [drawCoeff, Spec.drawCoeff, prbs23_spec, ih]

theorem matrixLine_go_spec (fuel m md k x : Nat) (line : List Bool) :
    matrixLine.go fuel m md k x line = Spec.matrixLine.go fuel m md k x line := by
  induction k generalizing x line with
  | zero => rfl
  | succ k ih =>
    simp only [matrixLine.go, Spec.matrixLine.go, drawCoeff_spec]
    cases Spec.drawCoeff m md fuel x with
    | none => rfl
    | some p => exact ih _ _

theorem matrixLine_go_length (fuel m md : Nat) (k x : Nat) (line l : List Bool) (h : matrixLine.go fuel m md k x line = some l) :
    l.length = line.length := by
  induction k generalizing x line with
  | zero => simp only [matrixLine.go] at h; cases h; rfl
  | succ k ih =>
    simp only [matrixLine.go] at h
    split at h
    · rename_i x' r _
      rw [ih x' _ h]; simp
    · contradiction

end LW.FragProofs
