/-
  LW.Proofs.Band — unbounded facts about the band accessors and the channel-plan state machine (helpers for C12 / C14 / C15).
  Every "never panics" fact is `idxInt` inside the guard its caller puts in front of it; every fact about reachable states is
  the three-way case split `step_cases` under the induction `run_ind`.
-/
import LW.Spec.BandChecks
namespace LW.BandProofs
open Outcome

/-! The state machine that the statements of C12, C14 and C15 speak of. -/

/-- the immutable part of a channel -/
def chStatic (c : Channel) : Nat × Int × Int × Bool := (c.freq, c.minDR, c.maxDR, c.custom)

inductive BandOp where
  | add (f : Nat) (mn mx : Int)
  | disable (i : Int)
  | enable (i : Int)
  deriving Repr, DecidableEq

/-- one operation on a band; an operation that reports an error leaves the band unchanged -/
def step (b : BandState) : BandOp → BandState
  | .add f mn mx => match b.addChannel f mn mx with | .ok b' => b' | _ => b
  | .disable i => match b.setUplinkEnabled i false with | .ok b' => b' | _ => b
  | .enable i => match b.setUplinkEnabled i true with | .ok b' => b' | _ => b

def run (b : BandState) (ops : List BandOp) : BandState := ops.foldl step b

/-- Invariant: the channel list is the configuration's standard channels (frequency, DR range and custom flag untouched,
in order) followed by custom channels; the configuration never changes. -/
def Inv (c : BandCfg) (b : BandState) : Prop :=
  b.cfg = c ∧ ∃ extra : List Channel, b.up.map chStatic = c.up.map chStatic ++ extra.map chStatic ∧ ∀ e ∈ extra, e.custom = true

theorem idxInt_eq_ok {α} {l : List α} {i : Int} {a : α} : idxInt l i = ok a ↔ 0 ≤ i ∧ l[i.toNat]? = some a := by
  unfold idxInt
  by_cases h : i < 0
  · simp only [if_pos h, reduceCtorEq, false_iff, not_and]; omega
  · have h0 : 0 ≤ i := Int.not_lt.mp h
    cases l[i.toNat]? <;> simp [h, h0]

theorem idxInt_ne_panic {α} {l : List α} {i : Int} (h0 : 0 ≤ i) (h1 : i < (l.length : Int)) : idxInt l i ≠ panic := by
  have : i.toNat < l.length := by omega
  simp only [idxInt, Int.not_lt.mpr h0, if_false, List.getElem?_eq_getElem this]
  nofun

/-- the accessors guard `s[i]` by exactly the range in which it answers -/
theorem guarded_idxInt_ne_panic {α} (l : List α) (i : Int) :
    (if i < 0 ∨ i > (l.length : Int) - 1 then err else idxInt l i) ≠ panic :=
  ite_ne_panic.mpr ⟨fun _ => nofun, fun h => idxInt_ne_panic (by omega) (by omega)⟩

theorem guarded_idxInt_eq_ok {α} {l : List α} {i : Int} {a : α} :
    (if i < 0 ∨ i > (l.length : Int) - 1 then err else idxInt l i) = ok a ↔ 0 ≤ i ∧ l[i.toNat]? = some a := by
  rw [ite_err_eq_ok, idxInt_eq_ok]
  refine ⟨fun h => h.2, fun h => ⟨?_, h⟩⟩
  have := (List.getElem?_eq_some_iff.mp h.2).1
  omega

theorem idxInt_tmod_ne_panic {α} (l : List α) (i m : Int) (hi : 0 ≤ i) (hm : 0 < m) (hl : m ≤ (l.length : Int)) :
    idxInt l (Int.tmod i m) ≠ panic := by
  rw [Int.tmod_eq_emod_of_nonneg hi]
  have := Int.emod_nonneg i (Int.ne_of_gt hm)
  have := Int.emod_lt_of_pos i hm
  exact idxInt_ne_panic (by omega) (by omega)

theorem getRX1DRGeneric_ne_panic (c : BandCfg) (dr off : Int) : c.getRX1DRGeneric dr off ≠ panic := by
  unfold BandCfg.getRX1DRGeneric
  split
  · nofun
  · exact guarded_idxInt_ne_panic _ _

theorem as923RX1DR_ne_panic (dw : Nat) (dr off : Int) : as923RX1DR dw dr off ≠ panic := by
  unfold as923RX1DR
  split
  · nofun
  · split <;> nofun

theorem getUplinkChannelIndex_ne_panic (b : BandState) (f : Nat) (d : Bool) : b.getUplinkChannelIndex f d ≠ panic := by
  unfold BandState.getUplinkChannelIndex; split <;> nofun

/-- `setEnabled` in the library's vocabulary: what it does to an element, to the length, and twice over is `List.getElem?_modify`,
`List.length_modify`, `List.modify_modify_eq` -/
theorem setEnabled_eq_modify (l : List Channel) (i : Nat) (v : Bool) : setEnabled l i v = l.modify i ({ · with enabled := v }) := by
  rw [List.modify_eq_set, setEnabled]
  cases h : l[i]? with
  | some c => rfl
  | none => exact (List.set_eq_of_length_le (List.getElem?_eq_none_iff.mp h)).symm

theorem setEnabled_static (l : List Channel) (i : Nat) (v : Bool) : (setEnabled l i v).map chStatic = l.map chStatic := by
  refine List.ext_getElem? fun j => ?_
  rw [setEnabled_eq_modify, List.getElem?_map, List.getElem?_modify, List.getElem?_map]
  split <;> cases l[j]? <;> rfl

theorem setEnabled_length (l : List Channel) (i : Nat) (v : Bool) : (setEnabled l i v).length = l.length := by
  rw [setEnabled_eq_modify, List.length_modify]

theorem setUplinkEnabled_cases (b : BandState) (i : Int) (v : Bool) :
    b.setUplinkEnabled i v = err ∨ b.setUplinkEnabled i v = ok { b with up := setEnabled b.up i.toNat v } := by
  unfold BandState.setUplinkEnabled
  split
  · exact Or.inl rfl
  · exact Or.inr rfl

theorem step_cases (b : BandState) (op : BandOp) :
    step b op = b ∨
    (b.cfg.supportsExtra = true ∧ ∃ ch : Channel, ch.custom = true ∧ step b op = { b with up := b.up ++ [ch], down := b.down ++ [ch] }) ∨
    ∃ n v, step b op = { b with up := setEnabled b.up n v } := by
  cases op with
  | add f mn mx =>
    unfold step BandState.addChannel
    cases hx : b.cfg.supportsExtra
    · exact Or.inl rfl
    · exact Or.inr (Or.inl ⟨rfl, _, rfl, rfl⟩)
  | disable i =>
    rcases setUplinkEnabled_cases b i false with h | h
    · exact Or.inl (by rw [step, h])
    · exact Or.inr (Or.inr ⟨_, _, by rw [step, h]⟩)
  | enable i =>
    rcases setUplinkEnabled_cases b i true with h | h
    · exact Or.inl (by rw [step, h])
    · exact Or.inr (Or.inr ⟨_, _, by rw [step, h]⟩)

theorem run_ind (P : BandState → Prop) {b : BandState} (ops : List BandOp) (h : P b) (hs : ∀ s op, P s → P (step s op)) :
    P (run b ops) := by
  induction ops generalizing b with
  | nil => exact h
  | cons op ops ih => exact ih (hs b op h)

theorem run_cfg (b : BandState) (ops : List BandOp) : (run b ops).cfg = b.cfg := by
  refine run_ind (fun s => s.cfg = b.cfg) ops rfl fun s op h => ?_
  rcases step_cases s op with e | ⟨-, ch, -, e⟩ | ⟨n, v, e⟩ <;> rw [e] <;> exact h

/-- the downlink channel list only grows (AddChannel appends; enabling / disabling touches uplink channels only) -/
theorem run_down_len (b : BandState) (ops : List BandOp) : b.down.length ≤ (run b ops).down.length := by
  refine run_ind (fun s => b.down.length ≤ s.down.length) ops (Nat.le_refl _) fun s op h => ?_
  rcases step_cases s op with e | ⟨-, ch, -, e⟩ | ⟨n, v, e⟩ <;> rw [e]
  · exact h
  · exact Nat.le_trans h (by simp)
  · exact h

theorem run_static_noextra (b : BandState) (ops : List BandOp) (h : b.cfg.supportsExtra = false) :
    (run b ops).up.map chStatic = b.up.map chStatic := by
  refine (run_ind (fun s => s.cfg = b.cfg ∧ s.up.map chStatic = b.up.map chStatic) ops ⟨rfl, rfl⟩ fun s op hs => ?_).2
  rcases step_cases s op with e | ⟨hx, -⟩ | ⟨n, v, e⟩
  · rw [e]; exact hs
  · rw [hs.1, h] at hx; cases hx
  · rw [e]; exact ⟨hs.1, (setEnabled_static _ _ _).trans hs.2⟩

theorem mem_indicesWhere {l : List Channel} {p : Channel → Bool} {i : Int} :
    i ∈ indicesWhere l p ↔ ∃ n : Nat, i = (n : Int) ∧ ∃ ch, l[n]? = some ch ∧ p ch = true := by
  simp only [indicesWhere, List.mem_filterMap, List.mem_range]
  constructor
  · rintro ⟨n, hn, h⟩
    simp only [List.getElem?_eq_getElem hn] at h
    split at h
    · cases h; exact ⟨n, rfl, _, List.getElem?_eq_getElem hn, ‹_›⟩
    · cases h
  · rintro ⟨n, rfl, ch, hl, hp⟩
    exact ⟨n, (List.getElem?_eq_some_iff.mp hl).1, by simp [hl, hp]⟩

theorem partition (l : List Channel) (p : Channel → Bool) (i : Int) :
    (i ∈ indicesWhere l (fun _ => true) ↔ (i ∈ indicesWhere l p ∨ i ∈ indicesWhere l (fun c => !p c))) ∧
      ¬ (i ∈ indicesWhere l p ∧ i ∈ indicesWhere l (fun c => !p c)) := by
  simp only [mem_indicesWhere]
  refine ⟨⟨?_, ?_⟩, ?_⟩
  · rintro ⟨n, rfl, ch, hl, _⟩
    cases hp : p ch
    · exact Or.inr ⟨n, rfl, ch, hl, by rw [hp]; rfl⟩
    · exact Or.inl ⟨n, rfl, ch, hl, hp⟩
  · rintro (⟨n, rfl, ch, hl, _⟩ | ⟨n, rfl, ch, hl, _⟩) <;> exact ⟨n, rfl, ch, hl, trivial⟩
  · rintro ⟨⟨n, rfl, ch, hl, hp⟩, ⟨m, hm, ch', hl', hn⟩⟩
    cases Int.ofNat.inj hm
    cases hl.symm.trans hl'
    rw [hp] at hn; cases hn

theorem lookup_freq_sound (b : BandState) (f : Nat) (d : Bool) (i : Int) (h : b.getUplinkChannelIndex f d = ok i) :
    ∃ n : Nat, i = n ∧ ∃ ch, b.up[n]? = some ch ∧ ch.freq = f ∧ ch.custom = !d := by
  unfold BandState.getUplinkChannelIndex at h
  split at h
  · rename_i n hn
    cases ok.inj h
    obtain ⟨hi, hp, _⟩ := List.findIdx?_eq_some_iff_getElem.mp hn
    simp only [Bool.and_eq_true, beq_iff_eq, bne_iff_ne, ne_eq] at hp
    exact ⟨n, rfl, _, List.getElem?_eq_getElem hi, hp.1, by cases d <;> simpa using hp.2⟩
  · cases h

/-- the answer comes from one of the two attempts: default channels, then custom ones -/
theorem lookup_freq_dr_eq_ok {b : BandState} {f : Nat} {dr i : Int} (h : b.getUplinkChannelIndexForFrequencyDR f dr = ok i) :
    ∃ dflt c, b.getUplinkChannelIndex f dflt = ok i ∧ b.getUplinkChannel i = ok c ∧ c.minDR ≤ dr ∧ dr ≤ c.maxDR := by
  have attempt : ∀ (x : Outcome Int) (y : Int → Outcome Channel),
      (match x with
       | .ok i => (match y i with
         | .ok c => if c.minDR ≤ dr ∧ c.maxDR ≥ dr then some i else none
         | _ => none)
       | _ => none) = some i → x = ok i ∧ ∃ c, y i = ok c ∧ c.minDR ≤ dr ∧ dr ≤ c.maxDR := by
    intro x y hj
    split at hj
    · split at hj
      · split at hj
        · cases hj; exact ⟨rfl, _, ‹_›, ‹_ ∧ _›⟩
        · cases hj
      · cases hj
    · cases hj
  simp only [BandState.getUplinkChannelIndexForFrequencyDR] at h
  split at h
  · rename_i j hj; cases ok.inj h
    obtain ⟨h1, c, h2, hr⟩ := attempt _ _ hj
    exact ⟨true, c, h1, h2, hr⟩
  · split at h
    · rename_i j hj; cases ok.inj h
      obtain ⟨h1, c, h2, hr⟩ := attempt _ _ hj
      exact ⟨false, c, h1, h2, hr⟩
    · cases h

theorem pingSlot_ne_panic (b : BandState) (a : BitVec 32) (t : Int) (ht : 0 ≤ t)
    (h8 : b.cfg.family = .us915 ∨ b.cfg.family = .au915 → 8 ≤ b.down.length) : b.pingSlot a t ≠ panic := by
  have hi : 0 ≤ (a.toNat : Int) + beaconPeriod t := Int.add_nonneg (Int.natCast_nonneg _) (Int.tdiv_nonneg ht (by decide))
  have hop : 8 ≤ b.down.length → (do let c ← idxInt b.down (Int.tmod ((a.toNat : Int) + beaconPeriod t) 8); ok c.freq) ≠ panic :=
    fun h => bind_ne_panic.mpr ⟨idxInt_tmod_ne_panic _ _ 8 hi (by decide) (by omega), fun _ _ => nofun⟩
  unfold BandState.pingSlot
  split
  · exact hop (h8 (Or.inl ‹_›))
  · exact hop (h8 (Or.inr ‹_›))
  · exact idxInt_tmod_ne_panic cn470PingSlots _ 8 hi (by decide) (by decide)
  · nofun

theorem rx1Frequency_ne_panic (b : BandState) (f : Nat)
    (h8 : b.cfg.family = .us915 ∨ b.cfg.family = .au915 → 8 ≤ b.down.length) (h48 : b.cfg.family = .cn470 → 48 ≤ b.down.length) :
    b.rx1Frequency f ≠ panic := by
  have key : ∀ m : Int, 0 < m → m ≤ b.down.length →
      (do let i ← b.getUplinkChannelIndex f true; let c ← idxInt b.down (Int.tmod i m); ok c.freq) ≠ panic := by
    intro m hm hl
    refine bind_ne_panic.mpr ⟨getUplinkChannelIndex_ne_panic b f true, fun i hi =>
      bind_ne_panic.mpr ⟨idxInt_tmod_ne_panic _ _ _ ?_ hm hl, fun _ _ => nofun⟩⟩
    obtain ⟨n, rfl, -⟩ := lookup_freq_sound b f true i hi
    exact Int.natCast_nonneg n
  unfold BandState.rx1Frequency BandState.rx1ChannelIndex
  split
  · exact key 8 (by decide) (by have := h8 (Or.inl ‹_›); omega)
  · exact key 8 (by decide) (by have := h8 (Or.inr ‹_›); omega)
  · exact key 48 (by decide) (by have := h48 ‹_›; omega)
  · nofun

end LW.BandProofs
