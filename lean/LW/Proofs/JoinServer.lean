/-
  LW.Proofs.JoinServer — C16 helper proofs.  Both flows of the join-server do two things once their context is set: build the
  join-accept frame for the device (`build_device`: layout, MIC and encryption by the theorems of C04; the device decrypts it
  and accepts the MIC) and wrap the session keys for the servers (`joinBody_ok`, over the key-envelope theorems of C17).
  They differ in the context, in the version flag the key derivation reads and in the key the frame is encrypted with.
-/
import LW.Model.JoinServer
import LW.Spec.JoinServer
import LW.Proofs.Backend
import LW.Proofs.CryptoSpec
import LW.Proofs.JoinAcceptRT
namespace LW.JS
open Outcome

/-! What the statements of C16 speak of. -/

/-- what "opens to" means for an optional envelope field of the answer -/
def opens (E : BlockCipher) (kek : Bytes) (e : Option (Bool × Bytes)) (key : Bytes) : Prop :=
  ∃ l k, e = some (l, k) ∧ Spec.JS.unwrapEnvelope E kek l k = some key ∧ l = !kek.isEmpty

/-- the requested CFList is absent, or 16 bytes that the CFList codec reproduces exactly (decidable; e.g. every channel list of type 0) -/
def cfListOK (c : Bytes) : Prop := c = [] ∨ ∃ l, CFList.dec c = ok l ∧ l.enc = ok c ∧ c.length = 16

/-- what the request must satisfy beyond carrying a valid frame and MIC -/
structure GoodRequest (q : Req) (c : Conf) : Prop where
  cf : cfListOK q.cfList
  rxDelay : 0 ≤ q.rxDelay ∧ q.rxDelay ≤ 15
  rx2dr : q.rx2dr.toNat < 16
  rx1off : q.rx1off.toNat < 8
  nsKEK : c.nsKEK = [] ∨ Backend.validKEK c.nsKEK
  asKEK : c.asKEK = [] ∨ Backend.validKEK c.asKEK
  asLabel : c.asLabel = true ∨ c.asKEK = []

theorem liftO_ok {α} (a : α) : liftO (ok a) = .ok a := rfl
theorem R.ok_bind {α β} (a : α) (f : α → R β) : ((.ok a : R α) >>= f) = f a := rfl

/-- the session keys the code derives with OptNeg are the LoRaWAN 1.1 ones, without OptNeg the 1.0 ones -/
theorem sessionKeys_11 (E : BlockCipher) (nwkKey appKey : Bytes) (netID : BitVec 24) (joinEUI : BitVec 64) (jn : Nat) (dn : BitVec 16) :
    (sessionKeys E true nwkKey appKey netID joinEUI jn dn).fNwkSIntKey = Spec.JS.skey11 E 0x01 nwkKey jn joinEUI dn ∧
    (sessionKeys E true nwkKey appKey netID joinEUI jn dn).appSKey = Spec.JS.skey11 E 0x02 appKey jn joinEUI dn ∧
    (sessionKeys E true nwkKey appKey netID joinEUI jn dn).sNwkSIntKey = Spec.JS.skey11 E 0x03 nwkKey jn joinEUI dn ∧
    (sessionKeys E true nwkKey appKey netID joinEUI jn dn).nwkSEncKey = Spec.JS.skey11 E 0x04 nwkKey jn joinEUI dn :=
  ⟨rfl, rfl, rfl, rfl⟩

theorem sessionKeys_10 (E : BlockCipher) (nwkKey appKey : Bytes) (netID : BitVec 24) (joinEUI : BitVec 64) (jn : Nat) (dn : BitVec 16) :
    (sessionKeys E false nwkKey appKey netID joinEUI jn dn).fNwkSIntKey = Spec.JS.skey10 E 0x01 nwkKey jn netID dn ∧
    (sessionKeys E false nwkKey appKey netID joinEUI jn dn).appSKey = Spec.JS.skey10 E 0x02 nwkKey jn netID dn :=
  ⟨rfl, rfl⟩

theorem jsKeys (E : BlockCipher) (nwkKey : Bytes) (devEUI : BitVec 64) :
    getJSKey E 0x06 devEUI nwkKey = Spec.JS.jsIntKey E nwkKey devEUI ∧ getJSKey E 0x05 devEUI nwkKey = Spec.JS.jsEncKey E nwkKey devEUI :=
  ⟨rfl, rfl⟩

theorem unwrapEnvelope_wrap16 (E : BlockCipher) (hE : E.Lawful) (kek : Bytes) {key : Bytes} (hkey : key.length = 16) :
    Spec.JS.unwrapEnvelope E kek true (Backend.wrap16 (E.enc kek) key) = some key := by
  simp only [Spec.JS.unwrapEnvelope, Backend.wrap16_length E hE kek key hkey, beq_self_eq_true, if_true]
  exact Backend.unwrap_wrap16 E hE kek key hkey

/-- with no KEK configured the key travels in clear; with a valid KEK (and, for the application server, a label) the join-server
wraps the key, and the receiving server unwraps the envelope with its KEK to the key put in -/
theorem envelope_ok (E : BlockCipher) (hE : E.Lawful) {label : Bool} {kek key : Bytes} (hk : kek = [] ∨ Backend.validKEK kek)
    (hkey : key.length = 16) (hl : label = true ∨ kek = []) :
    ∃ e, envelope E label kek key = .ok e ∧ opens E kek e key := by
  unfold envelope opens
  by_cases h0 : kek = []
  · subst h0
    rw [Backend.newKeyEnvelope_clear E label [] key (Or.inr rfl)]
    exact ⟨_, rfl, false, key, rfl, rfl, rfl⟩
  · obtain rfl : label = true := hl.resolve_right h0
    rw [Backend.newKeyEnvelope_wrap E kek key (hk.resolve_left h0)]
    exact ⟨_, rfl, true, _, rfl, unwrapEnvelope_wrap16 E hE kek hkey, by cases kek with | nil => exact absurd rfl h0 | cons _ _ => rfl⟩

/-- the key envelopes of the answer are created and open, with the configured KEKs, to the keys put in: the 1.1 set with OptNeg,
NwkSKey / AppSKey without -/
theorem joinBody_ok (E : BlockCipher) (hE : E.Lawful) (q : Req) (c : Conf) (ks : Keys) (b : Bytes)
    (hns : c.nsKEK = [] ∨ Backend.validKEK c.nsKEK) (has : c.asKEK = [] ∨ Backend.validKEK c.asKEK) (hal : c.asLabel = true ∨ c.asKEK = [])
    (hk : ks.fNwkSIntKey.length = 16 ∧ ks.appSKey.length = 16 ∧ ks.sNwkSIntKey.length = 16 ∧ ks.nwkSEncKey.length = 16) :
    ∃ body, joinBody E q c ks b = .ok body ∧ body.phy = b ∧ opens E c.asKEK body.appSKey ks.appSKey ∧
      (q.optNeg = true → opens E c.nsKEK body.fNwkSIntKey ks.fNwkSIntKey ∧ opens E c.nsKEK body.sNwkSIntKey ks.sNwkSIntKey ∧
        opens E c.nsKEK body.nwkSEncKey ks.nwkSEncKey ∧ body.nwkSKey = none) ∧
      (q.optNeg = false → opens E c.nsKEK body.nwkSKey ks.fNwkSIntKey ∧
        body.fNwkSIntKey = none ∧ body.sNwkSIntKey = none ∧ body.nwkSEncKey = none) := by
  obtain ⟨ea, h0, oa⟩ := envelope_ok E hE has hk.2.1 hal
  obtain ⟨ef, h1, of⟩ := envelope_ok E hE hns hk.1 (Or.inl rfl)
  obtain ⟨es, h2, os⟩ := envelope_ok E hE hns hk.2.2.1 (Or.inl rfl)
  obtain ⟨en, h3, on⟩ := envelope_ok E hE hns hk.2.2.2 (Or.inl rfl)
  unfold joinBody
  rw [h0]
  cases q.optNeg
  · exact ⟨_, by simp only [Bool.false_eq_true, if_false]; rw [h1]; rfl, rfl, oa, by simp, fun _ => ⟨of, rfl, rfl, rfl⟩⟩
  · exact ⟨_, by simp only [if_true]; rw [h1, h2, h3]; rfl, rfl, oa, fun _ => ⟨of, os, on, rfl⟩, by simp⟩

/-- createRejoinAnsPayload wraps the keys as createJoinAnsPayload does for OptNeg -/
theorem rejoinBody_eq (E : BlockCipher) (q : Req) (c : Conf) (ks : Keys) (b : Bytes) (ho : q.optNeg = true) :
    rejoinBody E c ks b = joinBody E q c ks b := by
  simp only [rejoinBody, joinBody, ho, if_true]

theorem sessionKeys_len (E : BlockCipher) (hE : E.Lawful) {o : Bool} {nwkKey appKey : Bytes} {netID : BitVec 24} {joinEUI : BitVec 64} {jn : Nat} {dn : BitVec 16} :
    (sessionKeys E o nwkKey appKey netID joinEUI jn dn).fNwkSIntKey.length = 16 ∧ (sessionKeys E o nwkKey appKey netID joinEUI jn dn).appSKey.length = 16 ∧
    (sessionKeys E o nwkKey appKey netID joinEUI jn dn).sNwkSIntKey.length = 16 ∧ (sessionKeys E o nwkKey appKey netID joinEUI jn dn).nwkSEncKey.length = 16 := by
  simp [sessionKeys, getSKey, hE.enc_len]

theorem micJA_length (E : BlockCipher) (hE : E.Lawful) {key : Bytes} {o : Bool} {jt : Byte} {eui : BitVec 64} {dn : BitVec 16} {m : Byte} {b : Bytes} :
    (Spec.micJoinAccept E key o jt eui dn m b).length = 4 := by
  simp [Spec.micJoinAccept, CryptoSpec.cmac_length E hE]

/-- MIC, encryption and serialisation of the join-accept: the frame is 0x20 followed by the specification's ciphertext of
payload | MIC, the MIC being the specification's join-accept MIC -/
theorem frame_core (E : BlockCipher) (hE : E.Lawful) (ja : JoinAccept) (b : Bytes) (hb : ja.enc = ok b)
    (jt : Byte) (eui : BitVec 64) (dn : BitVec 16) (micKey encKey : Bytes) :
    (do let phy : PHY := { mtype := 1, major := 0, payload := some (.joinAccept ja) }
        let phy ← liftO (setMIC phy (calcDownlinkJoinMIC E jt eui dn micKey phy))
        let phy ← liftO (phy.encryptJA E encKey)
        liftO phy.enc : R Bytes) =
      .ok (0x20#8 :: Spec.encryptJoinAccept E encKey (b ++ Spec.micJoinAccept E micKey ja.optNeg jt eui dn 0x20#8 b)) := by
  have hm := CryptoSpec.ja_mic_spec E jt eui dn micKey { mtype := 1, major := 0, payload := some (.joinAccept ja) } ja b rfl hb
  have hmh : mhdrEnc 1 0 = 0x20#8 := by decide
  rw [hmh] at hm
  generalize hmic : Spec.micJoinAccept E micKey ja.optNeg jt eui dn 0x20#8 b = mic at hm
  have hml : mic.length = 4 := by rw [← hmic]; exact micJA_length E hE
  have hl16 : (b ++ mic).length % 16 = 0 := by
    have hlen := FrameRT.joinAccept_enc_length hb
    split at hlen <;> simp [hlen, hml]
  have he := CryptoSpec.ja_encrypt_spec E encKey { mtype := 1, major := 0, payload := some (.joinAccept ja), mic := mic } ja b rfl hb hml hl16
  simp only [hm, setMIC, ok_bind, liftO_ok, R.ok_bind, he, PHY.enc, MacPL.enc, hmh, List.cons_append, List.nil_append,
    List.take_append_drop]

theorem device_accepts (E : BlockCipher) (hE : E.Lawful) (nwkKey : Bytes) (devEUI joinEUI : BitVec 64) (dn : BitVec 16) (jt : Byte) (rejoin : Bool)
    (b : Bytes) (hlen : b.length = 12 ∨ b.length = 28) :
    let o := (b.getD 10 0).getLsbD 7
    let micKey := if o then Spec.JS.jsIntKey E nwkKey devEUI else nwkKey
    let encKey := if rejoin then Spec.JS.jsEncKey E nwkKey devEUI else nwkKey
    Spec.JS.deviceReceive E nwkKey devEUI joinEUI dn jt rejoin
      (0x20#8 :: Spec.encryptJoinAccept E encKey (b ++ Spec.micJoinAccept E micKey o jt joinEUI dn 0x20#8 b)) = some (b, true) := by
  intro o micKey encKey
  generalize hmic : Spec.micJoinAccept E micKey o jt joinEUI dn 0x20#8 b = mic
  have hml : mic.length = 4 := by rw [← hmic]; exact micJA_length E hE
  have hl16 : (b ++ mic).length % 16 = 0 := by rcases hlen with h | h <;> simp [h, hml]
  have hctl := CryptoSpec.encryptJoinAccept_length E hE encKey (b ++ mic) hl16
  have hc1 : ¬ (((Spec.encryptJoinAccept E encKey (b ++ mic)).length % 16 != 0 || decide ((Spec.encryptJoinAccept E encKey (b ++ mic)).length < 16)) = true) := by
    rw [hctl]; rcases hlen with h | h <;> simp [h, hml]
  simp only [Spec.JS.deviceReceive, if_neg hc1]
  -- `o`, `micKey`, `encKey` are what `deviceReceive` computes from the decrypted payload `b`
  rw [show (if rejoin = true then Spec.JS.jsEncKey E nwkKey devEUI else nwkKey) = encKey from rfl,
    CryptoSpec.ja_device E hE encKey (b ++ mic) hl16, take_sub_append hml, drop_sub_append hml,
    show (if (b.getD 10 0).getLsbD 7 = true then Spec.JS.jsIntKey E nwkKey devEUI else nwkKey) = micKey from rfl, hmic]
  simp

theorem dls_byte (o : Bool) (r2 r1 : Byte) (h2 : r2.toNat < 16) (h1 : r1.toNat < 8) :
    byteOfNat ((if o then 128 else 0) + r1.toNat * 16 + r2.toNat) = (r2 ||| (r1 <<< 4)) ||| (if o then 0x80#8 else 0#8) := by
  rw [MacSpec.dlSettings_eq_byteOfNat r2 r1 o (by omega) (by omega)]
  congr 1
  cases o <;> simp [Spec.b2n] <;> omega

theorem ja_enc_layout (jn : Nat) (netID : BitVec 24) (devAddr : BitVec 32) (o : Bool) (r2 r1 : Byte) (rxDelay : Nat) (cf : Option CFList) (cfBytes : Bytes)
    (hjn : jn < 16777216) (hrx : rxDelay ≤ 15) (h2 : r2.toNat < 16) (h1 : r1.toNat < 8)
    (hcf : match cf with | none => cfBytes = [] | some l => l.enc = ok cfBytes) :
    JoinAccept.enc { joinNonce := BitVec.ofNat 32 jn, homeNetID := netID, devAddr := devAddr, optNeg := o, rx2dr := r2, rx1off := r1,
                     rxDelay := byteOfNat rxDelay, cfList := cf } =
      ok (Spec.JS.joinAcceptBytes jn netID devAddr o r2.toNat r1.toNat rxDelay cfBytes) := by
  have hjn' : (BitVec.ofNat 32 jn).toNat = jn := by simp; omega
  have hrx' : (byteOfNat rxDelay).toNat = rxDelay := by simp [byteOfNat]; omega
  rw [FrameRT.joinAccept_enc_eq _ (by show (byteOfNat rxDelay).toNat ≤ 15; omega) (by show (BitVec.ofNat 32 jn).toNat < _; omega)
    (by show r2.toNat ≤ 15; omega) (by show r1.toNat ≤ 7; omega)]
  simp only [hjn', Spec.JS.joinAcceptBytes, dls_byte o r2 r1 h2 h1]
  cases cf with
  | none => cases (hcf : cfBytes = []); simp only [ok_bind, List.append_nil]
  | some l => simp only [show l.enc = ok cfBytes from hcf, ok_bind]

theorem joinAcceptBytes_optNeg (jn : Nat) (netID : BitVec 24) (devAddr : BitVec 32) (o : Bool) (r2 r1 : Byte) (rxDelay : Nat) (cfBytes : Bytes)
    (h2 : r2.toNat < 16) (h1 : r1.toNat < 8) :
    ((Spec.JS.joinAcceptBytes jn netID devAddr o r2.toNat r1.toNat rxDelay cfBytes).getD 10 0).getLsbD 7 = o := by
  simp only [Spec.JS.joinAcceptBytes, leBytes, List.cons_append, List.nil_append, List.getD_cons_succ, List.getD_cons_zero,
    dls_byte o r2 r1 h2 h1, MacSpec.getLsbD_dlSettings r2 r1 o (by omega) (by omega)]

/-- The join-accept both flows build is accepted by the requesting device: it decrypts (NwkKey, or JSEncKey after a rejoin-request)
to exactly the specification's layout of JoinNonce | NetID | requested DevAddr | DLSettings | RxDelay | CFList, and its MIC verifies. -/
theorem build_device (E : BlockCipher) (hE : E.Lawful) (q : Req) (netID : BitVec 24) (jn : Nat) (jt : Byte) (joinEUI : BitVec 64) (dn : BitVec 16)
    (nwkKey : Bytes) (rejoin : Bool)
    (hcf : cfListOK q.cfList) (hjn : jn < 16777216) (hrx : 0 ≤ q.rxDelay ∧ q.rxDelay ≤ 15) (h2 : q.rx2dr.toNat < 16) (h1 : q.rx1off.toNat < 8) :
    ∃ frame,
      buildJoinAccept E q netID jn jt joinEUI dn (if q.optNeg then Spec.JS.jsIntKey E nwkKey q.devEUI else nwkKey)
        (if rejoin then Spec.JS.jsEncKey E nwkKey q.devEUI else nwkKey) = .ok frame ∧
      Spec.JS.deviceReceive E nwkKey q.devEUI joinEUI dn jt rejoin frame =
        some (Spec.JS.joinAcceptBytes jn netID q.devAddr q.optNeg q.rx2dr.toNat q.rx1off.toNat q.rxDelay.toNat q.cfList, true) := by
  have hrxb : BitVec.ofInt 8 q.rxDelay = byteOfNat q.rxDelay.toNat := by
    obtain ⟨a, _⟩ := hrx
    match hq : q.rxDelay, a with
    | .ofNat n, _ => simp [byteOfNat]
  -- the CFList the flow decodes and the bytes it re-encodes
  obtain ⟨cf, hcfdec, hcfenc⟩ : ∃ cf : Option CFList,
      ((if q.cfList.isEmpty then pure none else do let l ← liftO (CFList.dec q.cfList); pure (some l)) : R (Option CFList)) = .ok cf ∧
      (match cf with | none => q.cfList = [] | some l => l.enc = ok q.cfList) := by
    rcases hcf with h | ⟨l, hd, he, hl⟩
    · exact ⟨none, by simp [h]; rfl, h⟩
    · have hne : q.cfList.isEmpty = false := by cases hq : q.cfList with | nil => simp [hq] at hl | cons x xs => rfl
      refine ⟨some l, ?_, he⟩
      simp only [hne, Bool.false_eq_true, if_false, hd, liftO]; rfl
  have hlay := ja_enc_layout jn netID q.devAddr q.optNeg q.rx2dr q.rx1off q.rxDelay.toNat cf q.cfList hjn (by omega) h2 h1 hcfenc
  have hlen : (Spec.JS.joinAcceptBytes jn netID q.devAddr q.optNeg q.rx2dr.toNat q.rx1off.toNat q.rxDelay.toNat q.cfList).length = 12 ∨
      (Spec.JS.joinAcceptBytes jn netID q.devAddr q.optNeg q.rx2dr.toNat q.rx1off.toNat q.rxDelay.toNat q.cfList).length = 28 := by
    have := FrameRT.joinAccept_enc_length hlay
    split at this <;> simp [this]
  have hcore := frame_core E hE _ _ hlay jt joinEUI dn (if q.optNeg then Spec.JS.jsIntKey E nwkKey q.devEUI else nwkKey)
    (if rejoin then Spec.JS.jsEncKey E nwkKey q.devEUI else nwkKey)
  refine ⟨?_, ?_, ?_⟩
  rotate_left
  · unfold buildJoinAccept
    rw [hcfdec]
    simp only [hrxb]
    exact hcore
  · have hd := device_accepts E hE nwkKey q.devEUI joinEUI dn jt rejoin _ hlen
    simp only [joinAcceptBytes_optNeg jn netID q.devAddr q.optNeg q.rx2dr q.rx1off q.rxDelay.toNat q.cfList h2 h1] at hd
    exact hd

end LW.JS
