/-
  LW.Proofs.Backend — C17 helper proofs (core Lean only): RFC 3394 key wrap (round trip for any lawful block cipher,
  model = RFC text).
-/
import LW.Model.Backend
import LW.Spec.Backend
namespace LW.Backend
open Outcome

/-- the KEK sizes the C17 statements (and JoinServer's) assume: an AES key -/
def validKEK (kek : Bytes) : Prop := kek.length = 16 ∨ kek.length = 24 ∨ kek.length = 32

theorem be64_eq (t : Nat) : Spec.Backend.be64 t = be64 t := by
  rw [be64, leBytes_eq_map, ← List.map_reverse, show (List.range 8).reverse = (List.range 8).map (7 - ·) from by decide,
    List.map_map]
  rfl

theorem be64_length (t : Nat) : (be64 t).length = 8 := by simp [be64]

theorem unwrapStep_wrapStep (E : BlockCipher) (hE : E.Lawful) (kek a r : Bytes) (t : Nat) (ha : a.length = 8) (hr : r.length = 8) :
    unwrapStep (E.dec kek) (wrapStep (E.enc kek) a r t).1 (wrapStep (E.enc kek) a r t).2 t = (a, r) := by
  simp only [wrapStep, unwrapStep]
  rw [xorBytes_cancel_right _ _ (by simp [be64_length]; omega), List.take_append_drop, hE.dec_enc _ _ (by simp [ha, hr])]
  simp [ha]

theorem wrapStep_lengths (E : BlockCipher) (hE : E.Lawful) (kek a r : Bytes) (t : Nat) :
    (wrapStep (E.enc kek) a r t).1.length = 8 ∧ (wrapStep (E.enc kek) a r t).2.length = 8 := by
  have hb : (E.enc kek (a ++ r)).length = 16 := hE.enc_len _ _
  simp [wrapStep, hb, be64_length]

/-- one round j of wrapping (i = 1, 2) and of unwrapping (i = 2, 1) -/
def wrapRound (enc : Bytes → Bytes) (j : Nat) (s : Bytes × Bytes × Bytes) : Bytes × Bytes × Bytes :=
  let x := wrapStep enc s.1 s.2.1 (2 * j + 1)
  let y := wrapStep enc x.1 s.2.2 (2 * j + 2)
  (y.1, x.2, y.2)
def unwrapRound (dec : Bytes → Bytes) (j : Nat) (s : Bytes × Bytes × Bytes) : Bytes × Bytes × Bytes :=
  let y := unwrapStep dec s.1 s.2.2 (2 * j + 2)
  let x := unwrapStep dec y.1 s.2.1 (2 * j + 1)
  (x.1, x.2, y.2)

def Len8 (s : Bytes × Bytes × Bytes) : Prop := s.1.length = 8 ∧ s.2.1.length = 8 ∧ s.2.2.length = 8

theorem wrapLoop_succ (enc : Bytes → Bytes) (fuel j : Nat) (s : Bytes × Bytes × Bytes) :
    wrapLoop enc (fuel + 1) j s = wrapLoop enc fuel (j + 1) (wrapRound enc j s) := by
  obtain ⟨a, r1, r2⟩ := s; rfl

theorem wrapLoop_last (enc : Bytes → Bytes) (fuel j : Nat) (s : Bytes × Bytes × Bytes) :
    wrapLoop enc (fuel + 1) j s = wrapRound enc (j + fuel) (wrapLoop enc fuel j s) := by
  induction fuel generalizing j s with
  | zero => obtain ⟨a, r1, r2⟩ := s; rfl
  | succ n ih =>
    rw [wrapLoop_succ, ih, wrapLoop_succ]
    congr 1; omega

theorem unwrapLoop_succ (dec : Bytes → Bytes) (j : Nat) (s : Bytes × Bytes × Bytes) :
    unwrapLoop dec (j + 1) s = unwrapLoop dec j (unwrapRound dec j s) := by
  obtain ⟨a, r1, r2⟩ := s; rfl

theorem round_inv (E : BlockCipher) (hE : E.Lawful) (kek : Bytes) (j : Nat) (s : Bytes × Bytes × Bytes) (h : Len8 s) :
    unwrapRound (E.dec kek) j (wrapRound (E.enc kek) j s) = s ∧ Len8 (wrapRound (E.enc kek) j s) := by
  obtain ⟨a, r1, r2⟩ := s
  obtain ⟨ha, h1, h2⟩ := h
  have l1 := wrapStep_lengths E hE kek a r1 (2 * j + 1)
  have l2 := wrapStep_lengths E hE kek (wrapStep (E.enc kek) a r1 (2 * j + 1)).1 r2 (2 * j + 2)
  constructor
  · simp only [wrapRound, unwrapRound]
    rw [unwrapStep_wrapStep E hE kek _ r2 _ l1.1 h2]
    rw [unwrapStep_wrapStep E hE kek a r1 _ ha h1]
  · exact ⟨l2.1, l1.2, l2.2⟩

theorem loops_inv (E : BlockCipher) (hE : E.Lawful) (kek : Bytes) (n : Nat) (s : Bytes × Bytes × Bytes) (h : Len8 s) :
    unwrapLoop (E.dec kek) n (wrapLoop (E.enc kek) n 0 s) = s ∧ Len8 (wrapLoop (E.enc kek) n 0 s) := by
  induction n with
  | zero => obtain ⟨a, r1, r2⟩ := s; exact ⟨rfl, h⟩
  | succ n ih =>
    rw [wrapLoop_last, unwrapLoop_succ, Nat.zero_add]
    obtain ⟨h1, h2⟩ := round_inv E hE kek n _ ih.2
    rw [h1]
    exact ⟨ih.1, h2⟩

theorem validKEK_iff (kek : Bytes) : validKEK kek ↔ (kek.length == 16 || kek.length == 24 || kek.length == 32) = true := by
  simp [validKEK, or_assoc]

theorem newKeyEnvelope_clear (E : BlockCipher) (label : Bool) (kek key : Bytes) (h : label = false ∨ kek = []) :
    newKeyEnvelope E label kek key = ok (false, key) := by
  rcases h with rfl | rfl <;> simp [newKeyEnvelope]

theorem newKeyEnvelope_wrap (E : BlockCipher) (kek key : Bytes) (hk : validKEK kek) :
    newKeyEnvelope E true kek key = ok (true, wrap16 (E.enc kek) key) := by
  have h0 : kek.length ≠ 0 := by rcases hk with h | h | h <;> omega
  simp [newKeyEnvelope, h0, (validKEK_iff kek).1 hk]

theorem unwrapEnvelope_eq (E : BlockCipher) (kek ct a r1 r2 : Bytes) (hk : validKEK kek) (h : ct.length = 24)
    (hs : unwrapLoop (E.dec kek) 6 (ct.take 8, (ct.drop 8).take 8, ct.drop 16) = (a, r1, r2)) :
    unwrapEnvelope E kek ct = if a == defaultIV then ok (r1 ++ r2) else err := by
  simp only [unwrapEnvelope, h, (validKEK_iff kek).1 hk, hs]
  rfl

theorem unwrapLoop_wrap16 (E : BlockCipher) (hE : E.Lawful) (kek key : Bytes) (hkey : key.length = 16) :
    (wrap16 (E.enc kek) key).length = 24 ∧
    unwrapLoop (E.dec kek) 6 ((wrap16 (E.enc kek) key).take 8, ((wrap16 (E.enc kek) key).drop 8).take 8, (wrap16 (E.enc kek) key).drop 16)
      = (defaultIV, key.take 8, key.drop 8) := by
  obtain ⟨hinv, l1, l2, l3⟩ := loops_inv E hE kek 6 (defaultIV, key.take 8, key.drop 8) (by simp [Len8, defaultIV, hkey])
  rcases hw : wrapLoop (E.enc kek) 6 0 (defaultIV, key.take 8, key.drop 8) with ⟨a, r1, r2⟩
  rw [hw] at hinv l1 l2 l3
  have hct : wrap16 (E.enc kek) key = a ++ r1 ++ r2 := by simp only [wrap16, hw]
  have e1 : (a ++ r1 ++ r2).take 8 = a := by rw [List.append_assoc]; exact List.take_left' l1
  have e2 : ((a ++ r1 ++ r2).drop 8).take 8 = r1 := by rw [List.append_assoc, List.drop_left' l1]; exact List.take_left' l2
  have e3 : (a ++ r1 ++ r2).drop 16 = r2 := List.drop_left' (by simp [l1, l2])
  rw [hct, e1, e2, e3]
  exact ⟨by simp [l1, l2, l3], hinv⟩

theorem wrap16_length (E : BlockCipher) (hE : E.Lawful) (kek key : Bytes) (hkey : key.length = 16) :
    (wrap16 (E.enc kek) key).length = 24 := (unwrapLoop_wrap16 E hE kek key hkey).1

/-- the model's three registers as the RFC's A and R[1..2] -/
abbrev regs (s : Bytes × Bytes × Bytes) : Bytes × List Bytes := (s.1, [s.2.1, s.2.2])

theorem wrapInner_regs (enc : Bytes → Bytes) (j : Nat) (s : Bytes × Bytes × Bytes) :
    Spec.Backend.wrapInner enc 2 j 2 (regs s) = regs (wrapRound enc j s) := by
  simp [regs, Spec.Backend.wrapInner, wrapRound, wrapStep, be64_eq]

theorem wrapOuter_regs (enc : Bytes → Bytes) (fuel : Nat) (hf : fuel ≤ 6) (s : Bytes × Bytes × Bytes) :
    Spec.Backend.wrapOuter enc 2 fuel (regs s) = regs (wrapLoop enc fuel (6 - fuel) s) := by
  induction fuel generalizing s with
  | zero => rfl
  | succ n ih =>
    rw [Spec.Backend.wrapOuter, wrapInner_regs, ih (by omega), wrapLoop_succ, show 6 - (n + 1) + 1 = 6 - n by omega]

theorem wrap16_is_rfc3394 (enc : Bytes → Bytes) (key : Bytes) (h : key.length = 16) : wrap16 enc key = Spec.Backend.wrap enc key := by
  have hb : Spec.Backend.blocks 2 key = [key.take 8, key.drop 8] := by
    simp only [Spec.Backend.blocks, List.cons.injEq, and_true, true_and]
    exact List.take_of_length_le (by simp [h])
  simp only [Spec.Backend.wrap, h, hb, wrap16, Spec.Backend.iv]
  rw [wrapOuter_regs enc 6 (Nat.le_refl _) (_, _, _)]
  simp [defaultIV]

theorem unwrapInner_regs (dec : Bytes → Bytes) (j : Nat) (s : Bytes × Bytes × Bytes) :
    Spec.Backend.unwrapInner dec 2 j 2 (regs s) = regs (unwrapRound dec j s) := by
  simp [regs, Spec.Backend.unwrapInner, unwrapRound, unwrapStep, be64_eq]

theorem unwrapOuter_regs (dec : Bytes → Bytes) (n : Nat) (s : Bytes × Bytes × Bytes) :
    Spec.Backend.unwrapOuter dec 2 n (regs s) = regs (unwrapLoop dec n s) := by
  induction n generalizing s with
  | zero => rfl
  | succ n ih => rw [Spec.Backend.unwrapOuter, unwrapInner_regs, ih, unwrapLoop_succ]

theorem spec_unwrap_eq (dec : Bytes → Bytes) (ct a r1 r2 : Bytes) (h : ct.length = 24)
    (hs : unwrapLoop dec 6 (ct.take 8, (ct.drop 8).take 8, ct.drop 16) = (a, r1, r2)) :
    Spec.Backend.unwrap dec ct = if a == defaultIV then some (r1 ++ r2) else none := by
  have hb : Spec.Backend.blocks 2 (ct.drop 8) = [(ct.drop 8).take 8, ct.drop 16] := by
    simp only [Spec.Backend.blocks, List.cons.injEq, and_true, true_and, List.drop_drop]
    exact List.take_of_length_le (by simp [h])
  simp only [Spec.Backend.unwrap, h, hb]
  rw [unwrapOuter_regs dec 6 (_, _, _), hs]
  show (if a == defaultIV then some (r1 ++ (r2 ++ [])) else none) = _
  rw [List.append_nil]

theorem unwrap_wrap16 (E : BlockCipher) (hE : E.Lawful) (kek key : Bytes) (hkey : key.length = 16) :
    Spec.Backend.unwrap (E.dec kek) (wrap16 (E.enc kek) key) = some key := by
  obtain ⟨hl, hs⟩ := unwrapLoop_wrap16 E hE kek key hkey
  rw [spec_unwrap_eq (E.dec kek) _ _ _ _ hl hs]
  simp

end LW.Backend
