import LW.Model.Backend

/-!
ISO8601Time: `time.Parse(time.RFC3339, t.Format(time.RFC3339)) = t` for every instant whose year in its zone is 0..9999
and every zone offset of whole minutes below a day.  The calendar is checked on a day of the 400-year era written as
(century, four-year cycle, day of the cycle).
-/
namespace LW.Backend

theorem isLeap_iff (y : Int) : isLeap y = true ↔ y % 4 = 0 ∧ (y % 100 ≠ 0 ∨ y % 400 = 0) := by
  simp [isLeap]

/-- the length of a month in arithmetic, as `omega` reads it -/
theorem daysIn_eq (y m : Int) : daysIn y m =
    if m = 2 then (if y % 4 = 0 ∧ (y % 100 ≠ 0 ∨ y % 400 = 0) then 29 else 28)
    else if m = 4 ∨ m = 6 ∨ m = 9 ∨ m = 11 then 30 else 31 := by
  simp only [daysIn, ← isLeap_iff, beq_iff_eq, Bool.or_eq_true, or_assoc]

/-- year of era and day of year (years starting 1 March) of a day of the era -/
def yoeOf (doe : Int) : Int := (doe - doe / 1460 + doe / 36524 - doe / 146096) / 365
def doyOf (doe : Int) : Int := doe - (365 * yoeOf doe + yoeOf doe / 4 - yoeOf doe / 100)

theorem yoeOf_eq (c k s : Int) (hc0 : 0 ≤ c) (hc : c ≤ 3) (hk0 : 0 ≤ k) (hs0 : 0 ≤ s) (hs : s ≤ 1460)
    (hr : 1461 * k + s < 36524) :
    yoeOf (36524 * c + 1461 * k + s) = 100 * c + 4 * k + min (s / 365) 3 := by
  unfold yoeOf
  -- leap days gone by: 25 a century, one a cycle; `24c + k + s` reaches 1460 only on the last days of a cycle
  have hleap : (36524 * c + 1461 * k + s) / 1460 = 25 * c + k + (24 * c + k + s) / 1460 := by omega
  -- `hr` keeps the day inside century c, and `c ≤ 3` inside the era
  have hcent : (36524 * c + 1461 * k + s) / 36524 = c := by omega
  have hera : (36524 * c + 1461 * k + s) / 146096 = 0 := by omega
  omega

theorem doyOf_eq (c k s : Int) (hc0 : 0 ≤ c) (hc : c ≤ 3) (hk0 : 0 ≤ k) (hs0 : 0 ≤ s) (hs : s ≤ 1460)
    (hr : 1461 * k + s < 36524) :
    doyOf (36524 * c + 1461 * k + s) = s - 365 * min (s / 365) 3 := by
  unfold doyOf
  rw [yoeOf_eq c k s hc0 hc hk0 hs0 hs hr]
  omega

theorem yoe_core (doe : Int) (h0 : 0 ≤ doe) (h1 : doe < 146097) :
    0 ≤ yoeOf doe ∧ yoeOf doe ≤ 399 ∧ 0 ≤ doyOf doe ∧
      (doyOf doe ≤ 364 ∨ (doyOf doe = 365 ∧ (yoeOf doe + 1) % 4 = 0 ∧ ((yoeOf doe + 1) % 100 ≠ 0 ∨ yoeOf doe = 399))) := by
  by_cases hl : doe = 146096
  · subst hl; decide
  · obtain ⟨c, k, s, rfl, hc0, hc, hk0, hs0, hs, hr⟩ : ∃ c k s, doe = 36524 * c + 1461 * k + s ∧ 0 ≤ c ∧ c ≤ 3 ∧ 0 ≤ k ∧
        0 ≤ s ∧ s ≤ 1460 ∧ 1461 * k + s < 36524 :=
      ⟨doe / 36524, doe % 36524 / 1461, doe % 36524 % 1461, by omega, by omega, by omega, by omega, by omega, by omega, by omega⟩
    rw [yoeOf_eq c k s hc0 hc hk0 hs0 hs hr, doyOf_eq c k s hc0 hc hk0 hs0 hs hr]
    omega

/-- month `mp` (0 = March) begins on day `(153·mp + 2)/5`; the month formula is the adjoint of that -/
theorem month_bounds (doy : Int) :
    (153 * ((5 * doy + 2) / 153) + 2) / 5 ≤ doy ∧ doy < (153 * ((5 * doy + 2) / 153 + 1) + 2) / 5 := by
  omega

theorem daysFromCivil_mp (era yoe mp d : Int) (hy0 : 0 ≤ yoe) (hy1 : yoe ≤ 399) (h0 : 0 ≤ mp) (h1 : mp ≤ 11) :
    daysFromCivil (if (if mp < 10 then mp + 3 else mp - 9) ≤ 2 then yoe + era * 400 + 1 else yoe + era * 400)
        (if mp < 10 then mp + 3 else mp - 9) d
      = era * 146097 + (yoe * 365 + yoe / 4 - yoe / 100 + ((153 * mp + 2) / 5 + d - 1)) - 719468 := by
  unfold daysFromCivil
  by_cases h : mp < 10
  · simp only [h, if_true]
    omega
  · simp only [h, if_false]
    omega

theorem civil_of_yd (era yoe doy : Int) (hy0 : 0 ≤ yoe) (hy1 : yoe ≤ 399) (hd0 : 0 ≤ doy)
    (hd1 : doy ≤ 364 ∨ (doy = 365 ∧ (yoe + 1) % 4 = 0 ∧ ((yoe + 1) % 100 ≠ 0 ∨ yoe = 399))) :
    let mp := (5 * doy + 2) / 153
    let d := doy - (153 * mp + 2) / 5 + 1
    let m := if mp < 10 then mp + 3 else mp - 9
    let y := if m ≤ 2 then yoe + era * 400 + 1 else yoe + era * 400
    1 ≤ m ∧ m ≤ 12 ∧ 1 ≤ d ∧ d ≤ daysIn y m ∧
      daysFromCivil y m d = era * 146097 + (yoe * 365 + yoe / 4 - yoe / 100 + doy) - 719468 := by
  intro mp d m y
  obtain ⟨hlo, hhi⟩ := month_bounds doy
  have hmp0 : 0 ≤ mp := by omega
  have hmp1 : mp ≤ 11 := by omega
  refine ⟨by omega, by omega, by omega, ?_, ?_⟩
  · -- the day is within its month; February ends the year: after 28 days, or 29 when the coming civil year is a leap year
    rw [daysIn_eq]
    omega
  · rw [daysFromCivil_mp era yoe mp d hy0 hy1 hmp0 hmp1]
    omega

theorem civilOfDoe_ok (era doe : Int) (h0 : 0 ≤ doe) (h1 : doe < 146097) :
    1 ≤ (civilOfDoe era doe).2.1 ∧ (civilOfDoe era doe).2.1 ≤ 12 ∧ 1 ≤ (civilOfDoe era doe).2.2 ∧
      (civilOfDoe era doe).2.2 ≤ daysIn (civilOfDoe era doe).1 (civilOfDoe era doe).2.1 ∧
      daysFromCivil (civilOfDoe era doe).1 (civilOfDoe era doe).2.1 (civilOfDoe era doe).2.2 = era * 146097 + doe - 719468 := by
  obtain ⟨a, b, c, d⟩ := yoe_core doe h0 h1
  have := civil_of_yd era (yoeOf doe) (doyOf doe) a b c d
  have e : yoeOf doe * 365 + yoeOf doe / 4 - yoeOf doe / 100 + doyOf doe = doe := by
    unfold doyOf; omega
  rw [e] at this
  exact this

theorem civilFromDays_ok (z : Int) :
    1 ≤ (civilFromDays z).2.1 ∧ (civilFromDays z).2.1 ≤ 12 ∧ 1 ≤ (civilFromDays z).2.2 ∧
      (civilFromDays z).2.2 ≤ daysIn (civilFromDays z).1 (civilFromDays z).2.1 ∧
      daysFromCivil (civilFromDays z).1 (civilFromDays z).2.1 (civilFromDays z).2.2 = z := by
  have := civilOfDoe_ok ((z + 719468) / 146097) ((z + 719468) % 146097) (by omega) (by omega)
  have e : (z + 719468) / 146097 * 146097 + (z + 719468) % 146097 - 719468 = z := by omega
  rw [e] at this
  exact this

theorem day_lt {y m : Int} {d : Nat} (h : (d : Int) ≤ daysIn y m) : d < 100 := by
  rw [daysIn_eq] at h; omega

def dg (k : Nat) : Char := Char.ofNat (48 + k)
theorem dig_eq (n : Nat) : dig n = dg (n % 10) := rfl

theorem digit_dg : ∀ k : Fin 10, isDigit (dg k) = true ∧ dval (dg k) = k := by decide

theorem isDigit_dig (n : Nat) : isDigit (dig n) = true := (digit_dg ⟨n % 10, Nat.mod_lt _ (by decide)⟩).1
theorem dval_dig (n : Nat) : dval (dig n) = n % 10 := (digit_dg ⟨n % 10, Nat.mod_lt _ (by decide)⟩).2

theorem pad2 (n : Nat) (h : n < 100) : pad 2 n = [dig (n / 10), dig n] := by
  simp [pad, h]
theorem pad4 (n : Nat) (h : n < 10000) : pad 4 n = [dig (n / 1000), dig (n / 100), dig (n / 10), dig n] := by
  simp [pad, h]

theorem getnum_pad2 (n : Nat) (h : n < 100) (fixed : Bool) (rest : List Char) :
    getnum (pad 2 n ++ rest) fixed = some (n, rest) := by
  simp only [pad2 n h, List.cons_append, List.nil_append, getnum, isDigit_dig, dval_dig, Bool.not_true, Bool.false_eq_true,
    if_false, if_true]
  congr 2
  omega

theorem digitsVal_pad4 (n : Nat) (h : n < 10000) : digitsVal [dig (n / 1000), dig (n / 100), dig (n / 10), dig n] = n := by
  have e : ∀ c, c.toNat - 48 = dval c := fun _ => rfl
  simp only [digitsVal, List.foldl_cons, List.foldl_nil, e, dval_dig]
  omega

theorem parseDate_fmt {Y Mo D : Nat} (hY : Y < 10000) (hMo0 : 1 ≤ Mo) (hMo1 : Mo ≤ 12) (hD : D < 100) (rest : List Char) :
    parseDate (pad 4 Y ++ '-' :: (pad 2 Mo ++ '-' :: (pad 2 D ++ rest))) = some (((Y : Int), Mo, D), rest) := by
  have hm : ¬ (Mo = 0 ∨ Mo > 12) := by omega
  rw [pad4 Y hY]
  simp [parseDate, isDigit_dig, digitsVal_pad4 Y hY, expect, getnum_pad2 Mo (by omega), getnum_pad2 D hD, hm]

theorem parseClock_fmt {H Mi S : Nat} (hH : H < 24) (hMi : Mi < 60) (hS : S < 60) (rest : List Char) :
    parseClock (pad 2 H ++ ':' :: (pad 2 Mi ++ ':' :: (pad 2 S ++ rest))) = some ((H, Mi, S), rest) := by
  simp [parseClock, expect, getnum_pad2 H (by omega), getnum_pad2 Mi (by omega), getnum_pad2 S (by omega),
    Nat.not_le.mpr hH, Nat.not_le.mpr hMi, Nat.not_le.mpr hS]

theorem parseFrac_sign (neg : Bool) (r : List Char) :
    parseFrac ((if neg then '-' else '+') :: r) = (0, (if neg then '-' else '+') :: r) := by
  cases neg <;> cases r with
  | nil => rfl
  | cons d r => simp [parseFrac]

theorem parseZone_fmt (neg : Bool) (hh mm : Nat) (hhh : hh < 24) (hmm : mm < 60) :
    parseZone ((if neg then '-' else '+') :: (pad 2 hh ++ ':' :: pad 2 mm))
      = some ((if neg then -(((hh * 60 + mm) * 60 : Nat) : Int) else (((hh * 60 + mm) * 60 : Nat) : Int)), []) := by
  have eh : hh / 10 % 10 * 10 + hh % 10 = hh := by omega
  have em : mm / 10 % 10 * 10 + mm % 10 = mm := by omega
  have hr : ¬ (hh > 24 ∨ mm > 60) := by omega
  rw [pad2 hh (by omega), pad2 mm (by omega)]
  cases neg <;> simp [parseZone, isDigit_dig, dval_dig, eh, em, hr]

theorem zone_reads_back (offMin : Int) (ho0 : -1440 < offMin) (ho1 : offMin < 1440) (z : List Char)
    (hz : z = if (offMin == 0) = true then ['Z']
      else (if offMin < 0 then '-' else '+') :: (pad 2 (offMin.natAbs / 60) ++ ':' :: pad 2 (offMin.natAbs % 60))) :
    parseFrac z = (0, z) ∧ parseZone z = some (offMin * 60, []) := by
  subst hz
  by_cases h0 : offMin = 0
  · subst h0; exact ⟨rfl, rfl⟩
  · have hb : (offMin == 0) = false := by simpa using h0
    have hs : (if offMin < 0 then '-' else '+') = (if decide (offMin < 0) = true then '-' else '+') := by
      by_cases h : offMin < 0 <;> simp [h]
    simp only [hb, Bool.false_eq_true, if_false, hs]
    refine ⟨parseFrac_sign _ _, ?_⟩
    rw [parseZone_fmt _ _ _ (by omega) (by omega)]
    congr 2
    by_cases h : offMin < 0 <;> simp only [h, if_true, if_false, decide_true, decide_false, Bool.false_eq_true] <;> omega

theorem parse_fields {Y Mo D H Mi S : Nat} (hY : Y < 10000) (hMo0 : 1 ≤ Mo) (hMo1 : Mo ≤ 12) (hD0 : 1 ≤ D)
    (hD1 : (D : Int) ≤ daysIn Y Mo) (hH : H < 24) (hMi : Mi < 60) (hS : S < 60) {zone : List Char} {off : Int}
    (hf : parseFrac zone = (0, zone)) (hz : parseZone zone = some (off, [])) :
    parseRFC3339 (pad 4 Y ++ '-' :: (pad 2 Mo ++ '-' :: (pad 2 D ++ 'T' :: (pad 2 H ++ ':' :: (pad 2 Mi ++ ':' :: (pad 2 S ++ zone))))))
      = some (daysFromCivil Y Mo D * 86400 + H * 3600 + Mi * 60 + S - off, 0) := by
  simp only [parseRFC3339, parseDate_fmt hY hMo0 hMo1 (day_lt hD1), Option.bind_eq_bind, Option.bind_some, expect, beq_self_eq_true, if_true,
    parseClock_fmt hH hMi hS, hf, hz]
  simp
  omega

theorem formatRFC3339_eq (sec offMin : Int) (Y Mo D R : Nat)
    (hc : civilFromDays ((sec + offMin * 60) / 86400) = ((Y : Int), (Mo : Int), (D : Int)))
    (hR : sec + offMin * 60 - (sec + offMin * 60) / 86400 * 86400 = R) :
    formatRFC3339 sec offMin =
      pad 4 Y ++ '-' :: (pad 2 Mo ++ '-' :: (pad 2 D ++ 'T' :: (pad 2 (R / 3600) ++ ':' :: (pad 2 (R % 3600 / 60) ++ ':' :: (pad 2 (R % 60) ++
        if (offMin == 0) = true then ['Z']
        else (if offMin < 0 then '-' else '+') :: (pad 2 (offMin.natAbs / 60) ++ ':' :: pad 2 (offMin.natAbs % 60))))))) := by
  have hyn : ¬ ((Y : Int) < 0) := by omega
  have e1 : ((R : Int) / 3600).toNat = R / 3600 := by omega
  have e2 : ((R : Int) % 3600 / 60).toNat = R % 3600 / 60 := by omega
  have e3 : ((R : Int) % 60).toNat = R % 60 := by omega
  simp only [formatRFC3339, hc, hR, if_neg hyn, Int.toNat_natCast, e1, e2, e3, List.append_assoc, List.cons_append, List.nil_append]

/-- The civil date of a day whose year is 0..9999 as three natural numbers: a real date, and the day again. -/
theorem civil_fields (z : Int) (hy : 0 ≤ (civilFromDays z).1 ∧ (civilFromDays z).1 ≤ 9999) :
    ∃ Y Mo D : Nat, civilFromDays z = ((Y : Int), (Mo : Int), (D : Int)) ∧ Y < 10000 ∧ 1 ≤ Mo ∧ Mo ≤ 12 ∧ 1 ≤ D ∧
      (D : Int) ≤ daysIn Y Mo ∧ daysFromCivil Y Mo D = z := by
  obtain ⟨hy0, hy1⟩ := hy
  obtain ⟨hm0, hm1, hd0, hd1, hinv⟩ := civilFromDays_ok z
  rcases hc : civilFromDays z with ⟨y, m, d⟩
  rw [hc] at hm0 hm1 hd0 hd1 hinv hy0 hy1
  simp only at hm0 hm1 hd0 hd1 hinv hy0 hy1
  obtain ⟨Y, rfl⟩ := Int.eq_ofNat_of_zero_le hy0
  obtain ⟨Mo, rfl⟩ := Int.eq_ofNat_of_zero_le (show 0 ≤ m by omega)
  obtain ⟨D, rfl⟩ := Int.eq_ofNat_of_zero_le (show 0 ≤ d by omega)
  exact ⟨Y, Mo, D, rfl, by omega, by omega, by omega, by omega, hd1, hinv⟩

/-- The text of an instant whose year in the zone is 0..9999, as `parse_fields` reads it: six natural numbers in their ranges,
a real date, and together the local time `sec + offMin * 60`. -/
theorem formatRFC3339_fields (sec offMin : Int)
    (hy : 0 ≤ (civilFromDays ((sec + offMin * 60) / 86400)).1 ∧ (civilFromDays ((sec + offMin * 60) / 86400)).1 ≤ 9999) :
    ∃ Y Mo D H Mi S : Nat, Y < 10000 ∧ 1 ≤ Mo ∧ Mo ≤ 12 ∧ 1 ≤ D ∧ (D : Int) ≤ daysIn Y Mo ∧ H < 24 ∧ Mi < 60 ∧ S < 60 ∧
      daysFromCivil Y Mo D * 86400 + H * 3600 + Mi * 60 + S = sec + offMin * 60 ∧
      formatRFC3339 sec offMin =
        pad 4 Y ++ '-' :: (pad 2 Mo ++ '-' :: (pad 2 D ++ 'T' :: (pad 2 H ++ ':' :: (pad 2 Mi ++ ':' :: (pad 2 S ++
          if (offMin == 0) = true then ['Z']
          else (if offMin < 0 then '-' else '+') :: (pad 2 (offMin.natAbs / 60) ++ ':' :: pad 2 (offMin.natAbs % 60))))))) := by
  obtain ⟨Y, Mo, D, hc, hY, hMo0, hMo1, hD0, hD1, hinv⟩ := civil_fields _ hy
  obtain ⟨R, hR⟩ := Int.eq_ofNat_of_zero_le (show 0 ≤ sec + offMin * 60 - (sec + offMin * 60) / 86400 * 86400 by omega)
  exact ⟨Y, Mo, D, R / 3600, R % 3600 / 60, R % 60, hY, hMo0, hMo1, hD0, hD1, by omega, by omega, by omega, by omega,
    formatRFC3339_eq sec offMin Y Mo D R hc hR⟩

end LW.Backend
