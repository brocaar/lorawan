/-
  LW.Proofs.Wire — cutting a concatenation whose first part has a known length; lists of items encoded on `k` bytes each.
-/
import LW.Basic
namespace LW

section cut
variable {α : Type} {a b : List α} {n : Nat}

/- with core's `List.take_left'` / `List.drop_left'` these two simp lemmas let `simp` read a field at a literal offset out of a
concatenation of parts of known lengths -/
@[simp] theorem drop_append_of_length_le (h : a.length ≤ n) : (a ++ b).drop n = b.drop (n - a.length) := by
  rw [List.drop_append, List.drop_of_length_le h, List.nil_append]

@[simp] theorem take_append_of_length_le (h : a.length ≤ n) : (a ++ b).take n = a ++ b.take (n - a.length) := by
  rw [List.take_append, List.take_of_length_le h]

theorem exists_append_of_le {l : List α} (h : n ≤ l.length) : ∃ a b, l = a ++ b ∧ a.length = n :=
  ⟨l.take n, l.drop n, (List.take_append_drop n l).symm, List.length_take_of_le h⟩

theorem getD_append_of_lt (h : n < a.length) (d : α) : (a ++ b).getD n d = a.getD n d := by
  simp only [List.getD_eq_getElem?_getD, List.getElem?_append_left h]

theorem take_drop_append_drop (l : List α) (a b : Nat) : (l.drop a).take b ++ l.drop (a + b) = l.drop a := by
  rw [← List.drop_drop, List.take_append_drop]

theorem take_sub_append (h : b.length = n) : (a ++ b).take ((a ++ b).length - n) = a := by
  rw [List.length_append, h, Nat.add_sub_cancel, List.take_left]

theorem drop_sub_append (h : b.length = n) : (a ++ b).drop ((a ++ b).length - n) = b := by
  rw [List.length_append, h, Nat.add_sub_cancel, List.drop_left]

theorem take_one_drop (l : List α) (i : Nat) (h : i < l.length) (d : α) : (l.drop i).take 1 = [l.getD i d] := by
  rw [List.drop_eq_getElem_cons h, List.getD_eq_getElem?_getD, List.getElem?_eq_getElem h]; rfl

end cut

theorem flatMap_length_const {α : Type} (k : Nat) (enc : α → Bytes) (henc : ∀ a, (enc a).length = k) (xs : List α) :
    (xs.flatMap enc).length = k * xs.length := by
  induction xs with
  | nil => rfl
  | cons x xs ih => rw [List.flatMap_cons, List.length_append, henc, ih, List.length_cons, Nat.mul_succ, Nat.add_comm]

theorem map_range_chunks {α β : Type} (k : Nat) (enc : α → Bytes) (dec : Bytes → β) (henc : ∀ a, (enc a).length = k)
    (xs : List α) (rest : Bytes) :
    (List.range xs.length).map (fun i => dec (((xs.flatMap enc ++ rest).drop (k * i)).take k)) = xs.map (fun a => dec (enc a)) := by
  induction xs with
  | nil => rfl
  | cons x xs ih =>
    rw [List.length_cons, List.range_succ_eq_map, List.map_cons, List.map_map, List.map_cons, ← ih]
    simp only [List.flatMap_cons, List.append_assoc, Nat.mul_zero, List.drop_zero, List.take_left' (henc x)]
    congr 1
    apply List.map_congr_left
    intro i _
    have e : k * (i + 1) = k + k * i := by rw [Nat.mul_succ, Nat.add_comm]
    simp only [Function.comp, e, ← List.drop_drop, List.drop_left' (henc x)]

end LW
