/-
  The arithmetic form of the addressing rules (Spec.addrWithPrefix / addrInNetID: what every Go result is compared with at run time)
  says what the bit-level rule says. The eight NetID types enter only through `AddrProofs.widths`.
-/
import LW.Proofs.Addr
namespace LW.Spec

/-! fields side by side: `2 ^ n * hi + lo` with `lo < 2 ^ n` (its bits: `Nat.testBit_two_pow_mul_add`) -/

theorem cat_lt {hi lo m n : Nat} (hh : hi < 2 ^ m) (hl : lo < 2 ^ n) : 2 ^ n * hi + lo < 2 ^ (m + n) := by
  have : 2 ^ n * (hi + 1) ≤ 2 ^ n * 2 ^ m := Nat.mul_le_mul_left _ hh
  rw [Nat.pow_add, Nat.mul_comm (2 ^ m)]
  rw [Nat.mul_add] at this
  omega

theorem eq_cat_iff {hi lo n x : Nat} (h : lo < 2 ^ n) : x = 2 ^ n * hi + lo ↔ x / 2 ^ n = hi ∧ x % 2 ^ n = lo := by
  rw [Nat.div_mod_unique (Nat.two_pow_pos n), Nat.add_comm, eq_comm]
  exact (and_iff_left h).symm

theorem typePrefix_lt (t : Nat) : typePrefix t < 2 ^ (t + 1) := by
  have := Nat.two_pow_pos (t + 1)
  unfold typePrefix; omega

theorem netIDTypeOf_lt (netid : Nat) : netIDTypeOf netid < 8 := by unfold netIDTypeOf; omega

/-- prefix | NwkID | NwkAddr, side by side -/
theorem addrWithPrefix_eq (netid a : Nat) {t w : Nat} (ht : netIDTypeOf netid = t) (hw : nwkIDWidth t = w) :
    addrWithPrefix netid a = 2 ^ (31 - t - w) * (2 ^ w * typePrefix t + netIDIdOf netid % 2 ^ w) + a % 2 ^ (31 - t - w) := by
  obtain ⟨h, -⟩ := AddrProofs.widths _ (netIDTypeOf_lt netid)
  subst ht hw
  have e : 2 ^ (31 - netIDTypeOf netid - nwkIDWidth (netIDTypeOf netid)) * 2 ^ nwkIDWidth (netIDTypeOf netid) = 2 ^ (31 - netIDTypeOf netid) := by
    rw [← Nat.pow_add]; congr 1; omega
  unfold addrWithPrefix
  rw [Nat.mul_add, ← Nat.mul_assoc, e, Nat.mul_comm _ (typePrefix _), Nat.mul_comm _ (_ % _)]

theorem addrWithPrefix_bits (netid a i : Nat) (hi : i < 32) :
    (addrWithPrefix netid a).testBit i = addrBit netid.testBit (netIDTypeOf netid) a.testBit i := by
  obtain ⟨hw, -⟩ := AddrProofs.widths _ (netIDTypeOf_lt netid)
  rw [addrWithPrefix_eq netid a rfl rfl, addrBit, netIDIdOf]
  generalize netIDTypeOf netid = t at *
  generalize nwkIDWidth t = w at *
  rw [Nat.testBit_two_pow_mul_add _ (Nat.mod_lt _ (Nat.two_pow_pos _)), Nat.testBit_two_pow_mul_add _ (Nat.mod_lt _ (Nat.two_pow_pos _)),
    AddrProofs.typePrefix_testBit]
  by_cases h1 : i < 31 - t - w
  · simp [h1]
  · by_cases h2 : i < 31 - t
    · have : i - (31 - t - w) < w := by omega
      simp [h1, h2, this, Bool.and_comm]
    · have : ¬ i - (31 - t - w) < w := by omega
      simp only [h1, h2, this, if_false]
      exact decide_eq_decide.mpr (by omega)

theorem addrWithPrefix_lt (netid a : Nat) : addrWithPrefix netid a < 2 ^ 32 := by
  obtain ⟨hw, -⟩ := AddrProofs.widths _ (netIDTypeOf_lt netid)
  rw [addrWithPrefix_eq netid a rfl rfl]
  have e : 32 = (netIDTypeOf netid + 1 + nwkIDWidth (netIDTypeOf netid)) + (31 - netIDTypeOf netid - nwkIDWidth (netIDTypeOf netid)) := by omega
  rw [e]
  exact cat_lt (cat_lt (typePrefix_lt _) (Nat.mod_lt _ (Nat.two_pow_pos _))) (Nat.mod_lt _ (Nat.two_pow_pos _))

theorem leading_ones (n a t : Nat) (ha : a < 2 ^ n) (ht : t ≤ n) :
    (∀ j, j < t → a / 2 ^ (n - 1 - j) % 2 = 1) ↔ a / 2 ^ (n - t) = 2 ^ t - 1 := by
  induction t with
  | zero => simp [Nat.div_eq_of_lt ha]
  | succ t ih =>
    have ih := ih (by omega)
    have e1 : n - t = (n - (t + 1)) + 1 := by omega
    have e2 : a / 2 ^ (n - t) = a / 2 ^ (n - (t + 1)) / 2 := by rw [e1, Nat.pow_succ, Nat.div_div_eq_div_mul]
    have e3 : n - 1 - t = n - (t + 1) := by omega
    have := Nat.two_pow_pos t
    constructor
    · intro h
      have h1 := ih.mp (fun j hj => h j (by omega))
      have h2 := h t (by omega)
      rw [e3] at h2
      omega
    · intro h j hj
      by_cases hjt : j = t
      · subst hjt; rw [e3]; omega
      · exact ih.mpr (by omega) j (by omega)

theorem addrType_iff (a t : Nat) (ha : a < 2 ^ 32) (ht : t < 8) : addrType a = some t ↔ a / 2 ^ (31 - t) = 2 ^ (t + 1) - 2 := by
  unfold addrType
  rw [List.find?_range_eq_some]
  simp only [beq_iff_eq, List.mem_range, ht, true_and, Bool.not_eq_true', beq_eq_false_iff_ne, ne_eq, Nat.mod_two_not_eq_zero]
  rw [leading_ones 32 a t ha (by omega)]
  have e1 : 32 - t = (31 - t) + 1 := by omega
  have e2 : a / 2 ^ (32 - t) = a / 2 ^ (31 - t) / 2 := by rw [e1, Nat.pow_succ, Nat.div_div_eq_div_mul]
  have := Nat.two_pow_pos t
  omega

theorem addrInNetID_iff (netid a : Nat) (ha : a < 2 ^ 32) : addrInNetID netid a = true ↔ a = addrWithPrefix netid a := by
  have ht := netIDTypeOf_lt netid
  obtain ⟨hw, -⟩ := AddrProofs.widths _ ht
  rw [addrWithPrefix_eq netid a rfl rfl, eq_cat_iff (Nat.mod_lt _ (Nat.two_pow_pos _)), eq_cat_iff (Nat.mod_lt _ (Nat.two_pow_pos _))]
  unfold addrInNetID addrNwkID
  simp only [Bool.and_eq_true, beq_iff_eq, and_true]
  rw [addrType_iff a _ ha ht, Nat.div_div_eq_div_mul, ← Nat.pow_add, typePrefix]
  have e : 31 - netIDTypeOf netid - nwkIDWidth (netIDTypeOf netid) + nwkIDWidth (netIDTypeOf netid) = 31 - netIDTypeOf netid := by omega
  rw [e]

end LW.Spec
