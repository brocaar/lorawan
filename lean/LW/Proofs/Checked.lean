/-
  LW.Proofs.Checked — C09: the decoders written with the Go source's index expressions (LW.Model.Checked) never panic.  The
  frame-level ones (PHYPayload, MACPayload, FHDR, CFList, join-accept) are shown EQUAL to the total decoders, which answer `ok`
  or `err` on every input; for the MAC-command stream loop and the application-layer decoders only `≠ panic` is shown.  Each
  index expression is rewritten with `slice_ok` / `index_ok` (LW.Basic, beside `slice` / `index`) and its bound.
-/
import LW.Model.Checked
import LW.Proofs.Wire
namespace LW.Checked
open Outcome

/-- the hypothesis of C09_stream_total -/
def RegNonneg (reg : Registry) : Prop := ∀ up cid e, reg.lookup up cid = some e → 0 ≤ e.size

/-- `s[i:i+1][0]` -/
theorem index_take_drop (s : Bytes) (i : Nat) (h : i < s.length) : index ((s.drop i).take 1) 0 = ok (s.getD i 0) := by
  rw [take_one_drop s i h 0]; rfl

/-- `if len(body) != n { return err }`, then `body[o:a]`, `body[a:b]`, `body[b:n]` -/
theorem slices3 {α : Type} (body : Bytes) (o a b n : Nat) (k : Bytes → Bytes → Bytes → Outcome α)
    (hoa : o ≤ a) (hab : a ≤ b) (hbn : b ≤ n) :
    (if body.length != n then err else do let x ← slice body o a; let y ← slice body a b; let z ← slice body b n; k x y z) =
      if body.length != n then err else k ((body.drop o).take (a - o)) ((body.drop a).take (b - a)) (body.drop b) := by
  by_cases hn : body.length = n
  · subst hn
    rw [slice_ok body o a ⟨hoa, by omega⟩, ok_bind, slice_ok body a b ⟨hab, by omega⟩, ok_bind, slice_to_end body b hbn, ok_bind]
  · rw [if_pos (by simpa using hn), if_pos (by simpa using hn)]

theorem fhdrDec_eq (data : Bytes) : fhdrDec data = FHDR.dec {} data := by
  unfold fhdrDec FHDR.dec
  by_cases h : data.length < 7
  · simp only [h, if_true]
  simp only [h, if_false]
  rw [slice_ok data 0 4 (by omega), slice_ok data 4 5 (by omega), slice_ok data 5 7 (by omega)]
  simp only [ok_bind, show 5 - 4 = 1 from rfl, index_take_drop data 4 (by omega)]
  by_cases h7 : data.length > 7
  · simp only [h7, if_true, slice_to_end data 7 (by omega), ok_bind, pure_eq]; rfl
  · simp only [h7, if_false, pure_eq, ok_bind]; rfl

theorem macDec_eq (data : Bytes) : macDec data = LW.macDec {} none [] data := by
  unfold macDec LW.macDec
  by_cases h : data.length < 7
  · simp only [h, if_true]
  simp only [h, if_false]
  rw [slice_ok data 4 5 (by omega)]
  simp only [ok_bind, show 5 - 4 = 1 from rfl, index_take_drop data 4 (by omega)]
  generalize ((data.getD 4 0) &&& 0x0f#8).toNat = fol
  by_cases h2 : data.length < 7 + fol
  · simp only [h2, if_true]
  simp only [h2, if_false]
  rw [slice_ok data 0 (7 + fol) (by omega)]
  simp only [ok_bind, List.drop_zero, Nat.sub_zero, fhdrDec_eq]
  cases FHDR.dec {} (data.take (7 + fol)) with
  | err => rfl
  | panic => rfl
  | ok hdr =>
    by_cases h3 : data.length > 7 + fol
    · simp only [h3, if_true, true_and, index_ok data (7 + fol) (by omega), ok_bind, slice_to_end data (7 + fol + 1) (by omega), beq_iff_eq]
    · have h5 : ¬ data.length > 7 + fol + 1 := by omega
      simp only [h3, h5, if_false, false_and]

theorem mic_eq (data : Bytes) (h : 4 ≤ data.length) :
    [data.getD (data.length - 4) 0, data.getD (data.length - 4 + 1) 0, data.getD (data.length - 4 + 2) 0, data.getD (data.length - 4 + 3) 0] =
      data.drop (data.length - 4) := by
  obtain ⟨pre, suf, rfl, hp⟩ := exists_append_of_le (show data.length - 4 ≤ data.length by omega)
  have hp : suf.length = 4 := by rw [List.length_append] at h hp; omega
  match suf, hp with
  | [a, b, c, d], _ => simp

theorem phyDec_eq (data : Bytes) : phyDec data = PHY.dec data := by
  unfold phyDec PHY.dec
  by_cases h : data.length < 5
  · simp only [h, if_true]
  simp only [h, if_false]
  rw [slice_ok data 0 1 (by omega), ok_bind, index_take_drop data 0 (by omega), ok_bind,
    slice_ok data 1 (data.length - 4) (by omega), ok_bind, index_ok data (data.length - 4) (by omega), ok_bind,
    index_ok data (data.length - 4 + 1) (by omega), ok_bind, index_ok data (data.length - 4 + 2) (by omega), ok_bind,
    index_ok data (data.length - 4 + 3) (by omega), ok_bind, mic_eq data (by omega), index_ok data 1 (by omega)]
  simp only [ok_bind, macDec_eq]
  -- what still differs: the three-field slices of the join / rejoin bodies
  rw [slices3 _ 0 8 16 18 _ (by decide) (by decide) (by decide), slices3 _ 1 4 12 14 _ (by decide) (by decide) (by decide),
    slices3 _ 1 9 17 19 _ (by decide) (by decide) (by decide)]
  rfl

/-! every branch of the total decoders is `ok` or `err` -/

theorem fhdr_ne_panic (p : FHDR) (d : Bytes) : FHDR.dec p d ≠ panic := by
  simp [FHDR.dec, ite_ne_panic]

theorem macDec_ne_panic (ph : FHDR) (pp : Option Byte) (pf : List Item) (d : Bytes) : LW.macDec ph pp pf d ≠ panic := by
  simp [LW.macDec, ite_ne_panic, bind_ne_panic, fhdr_ne_panic]

theorem phy_ne_panic (d : Bytes) : PHY.dec d ≠ panic := by
  simp [PHY.dec, ite_ne_panic, bind_ne_panic, macDec_ne_panic]

theorem macCmdDec_ok (reg : Registry) (up : Bool) (d : Bytes) (h : d ≠ []) : ∃ r, MacCmd.dec reg up d = ok r := by
  unfold MacCmd.dec
  match d, h with
  | [c], _ => exact ⟨_, rfl⟩
  | c :: x :: rest, _ =>
    simp only
    split
    · exact ⟨_, rfl⟩
    · split <;> exact ⟨_, rfl⟩

/-- non-negative sizes are what `RegisterProprietaryMACCommand` guarantees (C07_register_range) -/
theorem streamLoop_ne_panic (reg : Registry) (hreg : RegNonneg reg) (up : Bool) (data : Bytes) (fuel i : Nat) (acc : List MacCmd) :
    streamLoop reg up data fuel i acc ≠ panic := by
  induction fuel generalizing i acc with
  | zero => simp [streamLoop]
  | succ fuel ih =>
    unfold streamLoop
    by_cases hi : i < data.length
    · have hnn : 0 ≤ regSize reg up (data.getD i 0) := by
        unfold regSize
        split
        · rename_i e he; exact hreg _ _ _ he
        · exact Int.le_refl 0
      rw [if_pos hi, index_ok data i hi, ok_bind, slice_to_end data i (by omega), ok_bind, List.length_drop]
      generalize regSize reg up (data.getD i 0) = plLen at hnn ⊢
      by_cases hshort : ((data.length - i : Nat) : Int) < plLen + 1
      · rw [if_pos hshort]; simp
      · rw [if_neg hshort, if_neg (by omega), slice_ok data i (i + (plLen + 1).toNat) (by omega), ok_bind]
        -- the chunk holds at least the CID, so the command decoder answers
        have hne : (data.drop i).take (i + (plLen + 1).toNat - i) ≠ [] := by
          intro hc
          have := congrArg List.length hc
          simp at this
          omega
        obtain ⟨⟨mc, b⟩, hd⟩ := macCmdDec_ok reg up _ hne
        rw [hd]
        exact ih _ _
    · rw [if_neg hi]; simp

theorem statusAnsItems_ne_panic (data : Bytes) (k i : Nat) (h : 1 + 5 * (i + k) ≤ data.length) : statusAnsItems data k i ≠ panic := by
  induction k generalizing i with
  | zero => nofun
  | succ k ih =>
    simp only [statusAnsItems, index_bind_ne_panic, slice_bind_ne_panic]
    simp only [bind_ne_panic, ih (i + 1) (by omega), ne_eq, reduceCtorEq, not_false_eq_true, implies_true, and_true]
    omega

theorem statusAnsDec_ne_panic (data : Bytes) : statusAnsDec data ≠ panic := by
  simp only [statusAnsDec, ite_ne_panic, index_bind_ne_panic]
  simp only [bind_ne_panic, ne_eq, reduceCtorEq, not_false_eq_true, implies_true, and_true, true_and, beq_iff_eq]
  exact fun h => ⟨by omega, fun hlen => statusAnsItems_ne_panic data _ 0 (by omega)⟩

theorem sessionAnsDec_ne_panic (mk) (data : Bytes) : sessionAnsDec mk data ≠ panic := by
  simp only [sessionAnsDec, ite_ne_panic, index_bind_ne_panic, slice_bind_ne_panic, ne_eq, reduceCtorEq,
    not_false_eq_true, implies_true, and_true, true_and, beq_iff_eq]
  omega

theorem upgradeAnsDec_ne_panic (data : Bytes) : upgradeAnsDec data ≠ panic := by
  simp only [upgradeAnsDec, ite_ne_panic, index_bind_ne_panic, slice_bind_ne_panic, ne_eq, reduceCtorEq,
    not_false_eq_true, implies_true, and_true, true_and]
  omega

theorem dataFragmentDec_ne_panic (data : Bytes) : dataFragmentDec data ≠ panic := by
  simp only [dataFragmentDec, ite_ne_panic, index_bind_ne_panic, slice_bind_ne_panic, ne_eq, reduceCtorEq,
    not_false_eq_true, implies_true, and_true, true_and]
  omega

theorem three_bytes (data : Bytes) (p : Nat) (h : p + 2 < data.length) :
    [data.getD p 0, data.getD (p + 1) 0, data.getD (p + 2) 0] = (data.drop p).take 3 := by
  rw [List.drop_eq_getElem_cons (by omega : p < data.length), List.drop_eq_getElem_cons (by omega : p + 1 < data.length),
    List.drop_eq_getElem_cons (by omega : p + 1 + 1 < data.length)]
  simp only [List.getD_eq_getElem?_getD, List.getElem?_eq_getElem, h, (by omega : p < data.length), (by omega : p + 1 < data.length),
    Option.getD_some, List.take_succ_cons, List.take_zero]

/-- over `List.range' i k`, which the loop's recursion on the counter `i` follows -/
theorem cfChannelsLoop_eq (data : Bytes) (k i : Nat) (h : 3 * (i + k) ≤ data.length) :
    cfChannelsLoop data k i = ok ((List.range' i k).map (fun j => freq100Dec ((data.drop (3 * j)).take 3))) := by
  induction k generalizing i with
  | zero => rfl
  | succ k ih =>
    rw [cfChannelsLoop, index_ok data (i * 3) (by omega), ok_bind, index_ok data (i * 3 + 1) (by omega), ok_bind,
      index_ok data (i * 3 + 2) (by omega), ok_bind, ih (i + 1) (by omega), ok_bind, three_bytes data (i * 3) (by omega),
      Nat.mul_comm i 3, List.range'_succ, List.map_cons]

theorem cfChannelsDec_eq (data : Bytes) : cfChannelsDec data = LW.cfChannelsDec (List.replicate 5 0) data := by
  unfold cfChannelsDec LW.cfChannelsDec
  by_cases h1 : data.length > 15
  · simp only [h1, if_true]
  by_cases h2 : (data.length % 3 != 0) = true
  · simp only [h1, h2, if_true, if_false]
  simp only [h1, h2, if_false, cfChannelsLoop_eq data (data.length / 3) 0 (by omega), ok_bind, List.range_eq_range']

theorem cfMasksSlices_eq (d : Bytes) (k i : Nat) (h : 2 * (i + k) ≤ d.length) (hk : d.length < 2 * (i + k) + 2) :
    cfMasksSlices d k i = ok (pairsLE (d.drop (2 * i))) := by
  induction k generalizing i with
  | zero =>
    have hl : (d.drop (2 * i)).length < 2 := by rw [List.length_drop]; omega
    generalize d.drop (2 * i) = r at hl ⊢
    match r, hl with
    | [], _ => rfl
    | [_], _ => rfl
  | succ k ih =>
    have e : 2 * (i + 1) = i * 2 + 1 + 1 := by omega
    rw [cfMasksSlices, slice_ok d (i * 2) (i * 2 + 2) (by omega), ok_bind, Nat.add_sub_cancel_left, ih (i + 1) (by omega) (by omega), e,
      Nat.mul_comm 2 i, List.drop_eq_getElem_cons (by omega : i * 2 < d.length), List.drop_eq_getElem_cons (by omega : i * 2 + 1 < d.length)]
    rfl

theorem pairsLE_take_even (data : Bytes) : pairsLE (data.take (data.length - data.length % 2)) = pairsLE data := by
  induction data using pairsLE.induct with
  | case1 a b rest ih =>
    have e : (a :: b :: rest).length - (a :: b :: rest).length % 2 = (rest.length - rest.length % 2) + 2 := by
      simp only [List.length_cons]; omega
    rw [e]
    simp only [List.take_succ_cons, pairsLE, ih]
  | case2 l hne =>
    match l, hne with
    | [], _ => rfl
    | [a], _ => rfl
    | a :: b :: r, hne => exact absurd rfl (hne a b r)

theorem cfMasksDec_eq (data : Bytes) : cfMasksDec data = LW.cfMasksDec [] data := by
  unfold cfMasksDec LW.cfMasksDec
  by_cases h1 : data.length > 15
  · simp only [h1, if_true]
  have hl : (data.take (data.length - data.length % 2)).length = data.length - data.length % 2 := by simp
  rw [slice_ok data 0 _ (by omega), ok_bind, List.drop_zero, Nat.sub_zero, cfMasksSlices_eq _ _ 0 (by rw [hl]; omega) (by rw [hl]; omega),
    ok_bind, List.drop_zero, pairsLE_take_even]

theorem cfListDec_eq (data : Bytes) : cfListDec data = CFList.dec data := by
  unfold cfListDec CFList.dec
  by_cases h : (data.length != 16) = true
  · simp only [h, if_true]
  have hl : data.length = 16 := by simpa using h
  rw [index_ok data 15 (by omega), slice_ok data 0 15 (by omega)]
  simp only [ok_bind, List.drop_zero, Nat.sub_zero, cfMasksDec_eq, cfChannelsDec_eq]

theorem joinAcceptDec_eq (data : Bytes) : joinAcceptDec data = JoinAccept.dec {} data := by
  unfold joinAcceptDec JoinAccept.dec
  by_cases h : data.length ≠ 12 ∧ data.length ≠ 28
  · simp [h]
  rw [slice_ok data 0 3 (by omega), slice_ok data 3 6 (by omega), slice_ok data 6 10 (by omega), slice_ok data 10 11 (by omega)]
  simp only [ok_bind, show 11 - 10 = 1 from rfl, index_take_drop data 10 (by omega)]
  rw [index_ok data 11 (by omega)]
  simp only [ok_bind, List.drop_zero, show 6 - 3 = 3 from rfl, show 10 - 6 = 4 from rfl]
  by_cases h28 : (data.length == 28) = true
  · simp only [h28, if_true, slice_to_end data 12 (by omega), ok_bind, cfListDec_eq]
  · simp only [h28, Bool.false_eq_true, if_false]

theorem cfList_ne_panic (d : Bytes) : CFList.dec d ≠ panic := by
  simp [CFList.dec, LW.cfMasksDec, LW.cfChannelsDec, ite_ne_panic, bind_ne_panic]

theorem joinAccept_ne_panic (p : JoinAccept) (d : Bytes) : JoinAccept.dec p d ≠ panic := by
  simp [JoinAccept.dec, ite_ne_panic, bind_ne_panic, cfList_ne_panic]

end LW.Checked
