/-
  LW.Proofs.MacRT — MAC payload encode→decode round trip (C07). Model encoder and decoder are the specification's
  (MacSpec), whose decoder inverts its encoder: `unpack ∘ pack` on a well-formed layout (Pack), then `fields_rt`.
-/
import LW.Proofs.MacSpec
namespace LW.MacRT
open Outcome

theorem isSome_match {α β} {o : Option α} {f : α → Option β} (h : (match o with | some c => f c | none => none).isSome = true) :
    o.isSome = true := by
  cases o with
  | none => exact h
  | some _ => rfl

theorem freq_ofNat (f : BitVec 32) (h : f.toNat % 100 = 0) : BitVec.ofNat 32 (f.toNat / 100 * 100) = f := by
  apply BitVec.eq_of_toNat_eq
  rw [BitVec.toNat_ofNat]; omega

theorem margin_ofInt (m : Byte) (h1 : -32 ≤ m.toInt) (h2 : m.toInt ≤ 31) :
    BitVec.ofInt 8 (if (m.toInt % 64).toNat ≥ 32 then (((m.toInt % 64).toNat : Nat) : Int) - 64 else ((m.toInt % 64).toNat : Nat)) = m := by
  rw [show (if (m.toInt % 64).toNat ≥ 32 then (((m.toInt % 64).toNat : Nat) : Int) - 64 else ((m.toInt % 64).toNat : Nat))
      = m.toInt by split <;> omega, BitVec.ofInt_toInt]

theorem kind_ne_proprietary_of_toFields (v : MacP) (vals : List Nat) (h : Spec.toFields v = some vals) :
    v.kind ≠ .proprietary := by
  intro hk
  cases v <;> cases hk
  cases h

open Spec Pack MacSpec in
theorem fields_rt (v : MacP) (vals : List Nat) (h : toFields v = some vals) :
    Fits (layout v.kind).2 vals ∧ ofFields v.kind vals = some (wireNorm v) := by
  cases v with
  | proprietary b => cases h
  | linkCheckAns | deviceModeInd | deviceModeConf | linkADRAns | rxParamSetupAns | newChannelAns | dlChannelAns
  | pingSlotChannelAns | beaconFreqAns | rejoinParamSetupAns =>
    cases Option.some.inj h
    simp only [MacP.kind, layout, Fits, ofFields, byteN, BitVec.ofNat_toNat, BitVec.setWidth_eq, BitVec.isLt, n2b_b2n,
      b2n_lt,
      wireNorm, and_true]
  | resetInd | resetConf | rekeyInd | rekeyConf | rxTimingSetupReq | pingSlotInfoReq | dutyCycleReq | linkADRReq
  | adrParamSetupReq | rejoinParamSetupReq | forceRejoinReq =>
    simp only [toFields, Option.ite_none_right_eq_some, Option.some.injEq, lt_iff] at h
    obtain ⟨hg, rfl⟩ := h
    simp only [MacP.kind, layout, Fits, ofFields, byteN, BitVec.ofNat_toNat, BitVec.setWidth_eq, BitVec.isLt, wireNorm,
      and_true, true_and]
    all_goals omega
  | devStatusAns bat m =>
    simp only [toFields, Option.ite_none_right_eq_some, Option.some.injEq] at h
    obtain ⟨hg, rfl⟩ := h
    simp only [MacP.kind, layout, Fits, ofFields, byteN, BitVec.ofNat_toNat, BitVec.setWidth_eq, BitVec.isLt, wireNorm,
      and_true, true_and, margin_ofInt m hg.1 hg.2]
    omega
  | txParamSetupReq dn up e =>
    simp only [toFields, Option.ite_none_right_eq_some, Option.some.injEq, lt_iff] at h
    obtain ⟨hg, rfl⟩ := h
    simp only [MacP.kind, layout, Fits, ofFields, byteN, BitVec.ofNat_toNat, BitVec.setWidth_eq, wireNorm, and_true,
      Int.toNat_of_nonneg (show 0 ≤ dn by omega), Int.toNat_of_nonneg (show 0 ≤ up by omega)]
    omega
  | deviceTimeAns ns =>
    simp only [toFields, Option.ite_none_right_eq_some, Option.some.injEq] at h
    obtain ⟨hg, rfl⟩ := h
    simp only [MacP.kind, layout, Fits, ofFields, wireNorm, and_true,
      Option.some.injEq, MacP.deviceTimeAns.injEq]
    omega
  | dlChannelReq ch f | beaconFreqReq f =>
    simp only [toFields] at h
    split at h
    · rename_i c hc
      obtain ⟨h1, h2, rfl⟩ := freqCode_eq_some.mp hc
      cases Option.some.inj h
      simp only [MacP.kind, layout, Fits, ofFields, byteN, BitVec.ofNat_toNat, BitVec.setWidth_eq, BitVec.isLt, wireNorm,
        and_true, true_and, freq_ofNat f h2]
      omega
    · cases h
  | rxParamSetupReq f o r2 r1 | pingSlotChannelReq f d =>
    simp only [toFields] at h
    split at h
    · rename_i c hc
      obtain ⟨h1, h2, rfl⟩ := freqCode_eq_some.mp hc
      simp only [Option.ite_none_right_eq_some, Option.some.injEq, lt_iff] at h
      obtain ⟨hg, rfl⟩ := h
      simp only [MacP.kind, layout, Fits, ofFields, byteN, BitVec.ofNat_toNat, BitVec.setWidth_eq, wireNorm, and_true,
        true_and, freq_ofNat f h2, n2b_b2n, b2n_lt]
      omega
    · cases h
  | newChannelReq ch f mx mn =>
    simp only [toFields] at h
    split at h
    · rename_i c hc
      obtain ⟨h1, h2⟩ := freqCodeNC_some f c hc
      simp only [Option.ite_none_right_eq_some, Option.some.injEq, lt_iff] at h
      obtain ⟨hg, rfl⟩ := h
      simp only [MacP.kind, layout, Fits, ofFields, byteN, BitVec.ofNat_toNat, BitVec.setWidth_eq, BitVec.isLt, wireNorm,
        and_true, true_and, h2]
      omega
    · cases h

open Spec Pack MacSpec in
theorem spec_rt {v : MacP} {bs : Bytes} (h : Spec.enc v = some bs) : Spec.dec v.kind bs = some (wireNorm v) := by
  rcases enc_inv h with rfl | ⟨vals, hv, rfl⟩
  · rfl
  · obtain ⟨hfit, hof⟩ := fields_rt v vals hv
    rw [dec_of_length _ _ (kind_ne_proprietary_of_toFields v vals hv) (pack_length ..),
      unpack_pack (layout_wf _) hfit, hof]

theorem lossless (v : MacP) (bs : Bytes) (h : v.enc = ok bs) : v.kind.dec0 bs = ok (Spec.wireNorm v) :=
  toOption_eq_some.mp ((MacSpec.dec_spec _ _).trans (spec_rt (MacSpec.enc_sound h)))

theorem wireSize_layout (k : Kind) (n : Nat) (h : k.wireSize = some n) : (Spec.layout k).1 = n := by
  cases k <;> cases h <;> rfl

end LW.MacRT
