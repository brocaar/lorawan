/-
  LW.Proofs.Exchange — C05: the receiver pipeline undoes the sender pipeline.
  The receiver sees the wire form of the sender's frame (`Spec.wire`: FOpts / FRMPayload as bytes, 16-bit counter), so each stage
  is stated twice: the sender's step inverted (`tx_…`), and the receiver's step on byte items (`…_wire`).
-/
import LW.Model.Exchange
import LW.Proofs.CryptoSpec
import LW.Proofs.FrameRT
import LW.Proofs.Stream
namespace LW.ExchangeProofs
open Outcome

/-! The vocabulary of `exchange` / `C05_exchange`. -/

/-- FOpts / FRMPayload given as MAC commands -/
def cmdItems (cs : List MacCmd) : List Item := cs.map Item.cmd
/-- … and as the receiver sees them -/
def normItems (cs : List MacCmd) : List Item := cs.map (fun c => Item.cmd (Stream.normCmd c))

/-- the FOpts / FRMPayload field of a decoded frame carrying bytes `b` -/
def wireItems (b : Bytes) : List Item := if b.length > 0 then [.data b] else []

/-- what the receiver should end up with in FRMPayload: commands on port 0, the application bytes otherwise -/
inductive Content where
  | absent
  | cmds (cs : List MacCmd)
  | app (port : Byte) (b : Bytes)

def Content.fPort : Content → Option Byte
  | .absent => none | .cmds _ => some 0 | .app p _ => some p
def Content.frm : Content → List Item
  | .absent => [] | .cmds cs => cmdItems cs | .app _ b => wireItems b
def Content.rx : Content → List Item
  | .absent => [] | .cmds cs => normItems cs | .app _ b => wireItems b
def Content.OK (reg : Registry) (up : Bool) : Content → Prop
  | .absent => True | .cmds cs => ∀ c ∈ cs, Stream.WellFramed reg up c | .app p _ => p ≠ 0

/-- the FCtrl of a decoded frame -/
def rxCtrl (c : FCtrl) (n : Nat) : FCtrl :=
  { adr := c.adr, adrAckReq := c.adrAckReq, ack := c.ack, fPending := c.classB || c.fPending, classB := c.classB || c.fPending,
    fOptsLen := byteOfNat n }

theorem encItems_cmds (cs : List MacCmd) : encItems (cmdItems cs) = encodeCmds cs := by
  induction cs with
  | nil => rfl
  | cons c cs ih => simp only [cmdItems, List.map_cons, encItems, encodeCmds, Item.enc] at ih ⊢; rw [ih]

theorem frmEnc_cmds0 (cs : List MacCmd) : frmEnc (some 0) (cmdItems cs) = encodeCmds cs :=
  (FrameRT.frmEnc_eq_encItems _ _ (Or.inl rfl)).trans (encItems_cmds cs)

theorem encodeCmds_nil (cs : List MacCmd) (h : encodeCmds cs = ok []) : cs = [] := by
  cases cs with
  | nil => rfl
  | cons c cs =>
    simp only [encodeCmds, bind_eq_ok, ok.injEq, List.append_eq_nil_iff] at h
    obtain ⟨cb, hc, -, -, rfl, -⟩ := h
    exact absurd (Stream.cmd_enc_length_pos hc) (Nat.lt_irrefl 0)

theorem wireItems_nil : wireItems [] = [] := rfl

theorem wireItems_cons (x : Byte) (xs : Bytes) : wireItems (x :: xs) = [.data (x :: xs)] := rfl

theorem frmEnc_data (p : Option Byte) (b : Bytes) : frmEnc p [.data b] = ok b :=
  (FrameRT.frmEnc_eq_encItems _ _ (Or.inr rfl)).trans (FrameRT.encItems_data b)

theorem frmEnc_wire (p : Option Byte) (b : Bytes) : frmEnc p (wireItems b) = ok b := by
  cases b with
  | nil => rfl
  | cons x xs => exact frmEnc_data p _

theorem wireItems_of_length {b c : Bytes} (h : c.length = b.length) : wireItems c = if b.length > 0 then [.data c] else [] := by
  rw [wireItems, h]

theorem decodeItems_cmds (reg : Registry) (up : Bool) (cs : List MacCmd) (b : Bytes)
    (hw : ∀ c ∈ cs, Stream.WellFramed reg up c) (he : encodeCmds cs = ok b) :
    decodeItems reg up [.data b] = ok (normItems cs) := by
  simp only [decodeItems, Stream.stream_rt reg up cs b hw he, Outcome.ok_bind, normItems, List.map_map]
  rfl

/-! Frames are written `{ p with payload := … }`: `p` supplies MType, Major and MIC, which no step touches. -/

theorem decodeFOpts_wire (reg : Registry) (p : PHY) (h : FHDR) (fPort : Option Byte) (frm : List Item) (cs : List MacCmd) (b : Bytes)
    (he : encodeCmds cs = ok b) (hw : ∀ c ∈ cs, Stream.WellFramed reg (isUplinkMType p.mtype) c) :
    PHY.decodeFOpts reg { p with payload := some (.mac { h with fOpts := wireItems b } fPort frm) }
      = ok { p with payload := some (.mac { h with fOpts := normItems cs } fPort frm) } := by
  cases b with
  | nil => cases encodeCmds_nil cs he; rfl
  | cons x xs => simp [PHY.decodeFOpts, wireItems_cons, PHY.isUplink, decodeItems_cmds reg _ cs _ hw he]

theorem decodeFRM_wire (reg : Registry) (p : PHY) (h : FHDR) (fPort : Option Byte) (cs : List MacCmd) (b : Bytes)
    (he : encodeCmds cs = ok b) (hw : ∀ c ∈ cs, Stream.WellFramed reg (isUplinkMType p.mtype) c) :
    PHY.decodeFRM reg { p with payload := some (.mac h fPort (wireItems b)) }
      = ok { p with payload := some (.mac h fPort (normItems cs)) } := by
  cases b with
  | nil => cases encodeCmds_nil cs he; rfl
  | cons x xs => simp [PHY.decodeFRM, wireItems_cons, PHY.isUplink, decodeItems_cmds reg _ cs _ hw he]

theorem encryptFOpts_wire (E : BlockCipher) (hE : E.Lawful) (key : Bytes) (p : PHY) (h : FHDR) (fPort : Option Byte) (frm : List Item)
    (b : Bytes) (hl : b.length ≤ 15) :
    PHY.encryptFOpts E key { p with payload := some (.mac { h with fOpts := wireItems b } fPort frm) }
      = ok { p with payload := some (.mac { h with fOpts := wireItems (Spec.cryptFOpts E key (Spec.useAFCntDown (isUplinkMType p.mtype) fPort) (isUplinkMType p.mtype) h.devAddr h.fCnt b) } fPort frm) } := by
  rw [CryptoSpec.phy_encryptFOpts E key _ _ fPort frm rfl]
  cases b with
  | nil => rfl
  | cons x xs =>
    rw [wireItems_of_length (CryptoSpec.cryptFOpts_length E hE key _ _ _ _ (x :: xs) (by omega))]
    simp only [List.length_cons] at hl
    simp [wireItems_cons, FrameRT.encItems_data, PHY.isUplink, show ¬ 15 < xs.length + 1 by omega]

theorem encryptFRM_wire (E : BlockCipher) (hE : E.Lawful) (key : Bytes) (p : PHY) (h : FHDR) (fPort : Option Byte) (b : Bytes) :
    PHY.encryptFRM E key { p with payload := some (.mac h fPort (wireItems b)) }
      = ok { p with payload := some (.mac h fPort (wireItems (Spec.cryptFRM E key (isUplinkMType p.mtype) h.devAddr h.fCnt b))) } := by
  rw [CryptoSpec.phy_encryptFRM E hE key _ h fPort _ rfl]
  cases b with
  | nil => rfl
  | cons x xs =>
    rw [wireItems_of_length (CryptoSpec.cryptFRM_length E hE key _ _ _ (x :: xs))]
    simp [wireItems_cons, frmEnc_data, PHY.isUplink]

theorem decryptFOpts_wire (E : BlockCipher) (hE : E.Lawful) (reg : Registry) (key : Bytes) (p : PHY) (h : FHDR) (fPort : Option Byte)
    (frm : List Item) (cs : List MacCmd) (b : Bytes)
    (he : encodeCmds cs = ok b) (hl : b.length ≤ 15) (hw : ∀ c ∈ cs, Stream.WellFramed reg (isUplinkMType p.mtype) c) :
    PHY.decryptFOpts E reg key { p with payload := some (.mac { h with fOpts := wireItems (Spec.cryptFOpts E key (Spec.useAFCntDown (isUplinkMType p.mtype) fPort) (isUplinkMType p.mtype) h.devAddr h.fCnt b) } fPort frm) }
      = ok { p with payload := some (.mac { h with fOpts := normItems cs } fPort frm) } := by
  have hlen := CryptoSpec.cryptFOpts_length E hE key (Spec.useAFCntDown (isUplinkMType p.mtype) fPort) (isUplinkMType p.mtype) h.devAddr h.fCnt b (by omega)
  rw [PHY.decryptFOpts, encryptFOpts_wire E hE key p h fPort frm _ (by omega), Outcome.ok_bind,
    CryptoSpec.cryptFOpts_invol E hE key _ _ _ _ b (by omega)]
  exact decodeFOpts_wire reg p h fPort frm cs b he hw

theorem decryptFRM_wire (E : BlockCipher) (hE : E.Lawful) (reg : Registry) (key : Bytes) (p : PHY) (h : FHDR)
    (c : Content) (data : Bytes) (hd : frmEnc c.fPort c.frm = ok data) (hok : c.OK reg (isUplinkMType p.mtype)) :
    PHY.decryptFRM E reg key
        { p with payload := some (.mac h c.fPort (wireItems (Spec.cryptFRM E key (isUplinkMType p.mtype) h.devAddr h.fCnt data))) }
      = ok { p with payload := some (.mac h c.fPort c.rx) } := by
  rw [PHY.decryptFRM, encryptFRM_wire E hE, Outcome.ok_bind, CryptoSpec.cryptFRM_invol E hE]
  cases c with
  | absent => cases hd; rfl
  | cmds cs =>
    rw [Content.fPort, Content.frm, frmEnc_cmds0] at hd
    exact decodeFRM_wire reg p h (some 0) cs data hd hok
  | app port b =>
    simp only [Content.fPort, Content.frm, frmEnc_wire, ok.injEq] at hd
    have : (port == 0) = false := by simpa [Content.OK] using hok
    subst hd
    simp only [Content.fPort, Content.rx, this, Bool.false_eq_true, if_false]

theorem tx_frm (E : BlockCipher) (hE : E.Lawful) (key : Bytes) (p : PHY) (h : FHDR) (fPort : Option Byte) (frm : List Item) (p1 : PHY)
    (h1 : PHY.encryptFRM E key { p with payload := some (.mac h fPort frm) } = ok p1) :
    ∃ data frm1, frmEnc fPort frm = ok data ∧
      frmEnc fPort frm1 = ok (Spec.cryptFRM E key (isUplinkMType p.mtype) h.devAddr h.fCnt data) ∧
      p1 = { p with payload := some (.mac h fPort frm1) } := by
  rw [CryptoSpec.phy_encryptFRM E hE key _ h fPort frm rfl] at h1
  split at h1
  · cases h1
    cases frm with
    | nil => exact ⟨[], [], rfl, rfl, rfl⟩
    | cons _ _ => simp at *
  · obtain ⟨data, hd, h1⟩ := bind_eq_ok.mp h1
    cases h1
    exact ⟨data, [.data _], hd, frmEnc_data _ _, rfl⟩

theorem tx_fopts (E : BlockCipher) (key : Bytes) (p : PHY) (h : FHDR) (fPort : Option Byte) (frm : List Item) (p2 : PHY)
    (h2 : PHY.encryptFOpts E key { p with payload := some (.mac h fPort frm) } = ok p2) :
    ∃ macB fo2, encItems h.fOpts = ok macB ∧ macB.length ≤ 15 ∧
      encItems fo2 = ok (Spec.cryptFOpts E key (Spec.useAFCntDown (isUplinkMType p.mtype) fPort) (isUplinkMType p.mtype) h.devAddr h.fCnt macB) ∧
      p2 = { p with payload := some (.mac { h with fOpts := fo2 } fPort frm) } := by
  rw [CryptoSpec.phy_encryptFOpts E key _ h fPort frm rfl] at h2
  dsimp only [PHY.isUplink] at h2
  split at h2
  · cases h2
    obtain ⟨addr, ctrl, fcnt, fo⟩ := h
    cases fo with
    | nil => exact ⟨[], [], rfl, by simp, rfl, rfl⟩
    | cons _ _ => simp at *
  · simp only [bind_eq_ok, ite_err_eq_ok, ok.injEq] at h2
    obtain ⟨macB, hm, hl, rfl⟩ := h2
    exact ⟨macB, [.data _], hm, by omega, FrameRT.encItems_data _, rfl⟩

/-! `sender` and `receiver` choose the MIC function by the MType and the FOpts step by `lp.ver`; the choices are named. -/

def calcMIC (E : BlockCipher) (lp : LinkParams) (mt : Byte) (p : PHY) : Outcome Bytes :=
  if isUpData mt then calcUplinkDataMIC E lp.ver lp.conf lp.txDr lp.txCh lp.fKey lp.sKey p
  else calcDownlinkDataMIC E lp.ver lp.conf lp.sKey p

def specMIC (E : BlockCipher) (lp : LinkParams) (mt : Byte) (addr fcnt : BitVec 32) (ack : Bool) (msg : Bytes) : Bytes :=
  if isUpData mt then Spec.micUp E (lp.ver != 0) lp.conf lp.txDr lp.txCh lp.fKey lp.sKey addr fcnt ack msg
  else Spec.micDown E (lp.ver != 0) lp.conf lp.sKey addr fcnt ack msg

def txFOpts (E : BlockCipher) (lp : LinkParams) (ek : Bytes) (p : PHY) : Outcome PHY :=
  if lp.ver != 0 then p.encryptFOpts E ek else ok p

def rxFOpts (E : BlockCipher) (reg : Registry) (lp : LinkParams) (ek : Bytes) (q : PHY) : Outcome PHY :=
  if lp.ver != 0 then q.decryptFOpts E reg ek else q.decodeFOpts reg

theorem calcMIC_eq (E : BlockCipher) (lp : LinkParams) (mt : Byte) (p : PHY) (h : FHDR) (fPort : Option Byte) (frm : List Item)
    (hp : p.payload = some (.mac h fPort frm)) :
    calcMIC E lp mt p = (macEnc h fPort frm >>= fun b =>
      ok (specMIC E lp mt h.devAddr h.fCnt h.fCtrl.ack (mhdrEnc p.mtype p.major :: b))) := by
  unfold calcMIC specMIC
  split
  · exact CryptoSpec.up_eq E lp.ver lp.conf lp.txDr lp.txCh lp.fKey lp.sKey p h fPort frm hp
  · exact CryptoSpec.down_eq E lp.ver lp.conf lp.sKey p h fPort frm hp

theorem validate_eq (E : BlockCipher) (lp : LinkParams) (mt : Byte) (q : PHY) (h : FHDR) (fPort : Option Byte) (frm : List Item) (b : Bytes)
    (hq : q.payload = some (.mac h fPort frm)) (hb : macEnc h fPort frm = ok b) :
    validateMIC q (calcMIC E lp mt q) = ok (q.mic == specMIC E lp mt h.devAddr h.fCnt h.fCtrl.ack (mhdrEnc q.mtype q.major :: b)) := by
  rw [calcMIC_eq E lp mt q h fPort frm hq, hb]
  rfl

theorem specMIC_length (E : BlockCipher) (hE : E.Lawful) (lp : LinkParams) (mt : Byte) (addr fcnt : BitVec 32) (ack : Bool) (msg : Bytes) :
    (specMIC E lp mt addr fcnt ack msg).length = 4 := by
  unfold specMIC Spec.micUp Spec.micDown
  split <;> (try split) <;> simp [CryptoSpec.cmac_length E hE]

theorem wirePL_mac (h : FHDR) (fPort : Option Byte) (frm : List Item) (ob fb : Bytes)
    (ho : encItems h.fOpts = ok ob) (hf : frmEnc fPort frm = ok fb) :
    Spec.wirePL (.mac h fPort frm) =
      .mac { devAddr := h.devAddr, fCtrl := rxCtrl h.fCtrl ob.length, fCnt := BitVec.ofNat 32 (h.fCnt.toNat % 65536), fOpts := wireItems ob }
        fPort (wireItems fb) := by
  simp only [Spec.wirePL, FrameRT.itemsBytes_of_ok ho, Spec.frmBytes, hf]
  rfl

theorem fcnt_restore (f : BitVec 32) : (f &&& 0xffff0000#32) ||| (BitVec.ofNat 32 (f.toNat % 65536) &&& 0xffff#32) = f := by
  have h1 : BitVec.ofNat 32 (f.toNat % 65536) = f &&& 0xffff#32 := by
    apply BitVec.eq_of_toNat_eq
    rw [Bits.toNat_and_mask f _ 16 rfl, BitVec.toNat_ofNat]
    omega
  rw [h1, BitVec.and_assoc, BitVec.and_self, ← BitVec.and_or_distrib_left]
  have : (0xffff0000#32 ||| 0xffff#32) = BitVec.allOnes 32 := by decide
  rw [this, BitVec.and_allOnes]

theorem macEnc_fCnt (a : BitVec 32) (c : FCtrl) (f g : BitVec 32) (fo : List Item) (fPort : Option Byte) (frm : List Item)
    (h : f.toNat % 65536 = g.toNat % 65536) :
    macEnc { devAddr := a, fCtrl := c, fCnt := f, fOpts := fo } fPort frm = macEnc { devAddr := a, fCtrl := c, fCnt := g, fOpts := fo } fPort frm := by
  have h1 : f.toNat % 256 = g.toNat % 256 := by omega
  have h2 : f.toNat / 256 % 256 = g.toNat / 256 % 256 := by omega
  simp only [macEnc, FHDR.enc, leBytes, h1, h2]

/-- the decoded frame re-encodes to the bytes that were sent (C08): this makes the receiver's MIC the sender's -/
theorem macEnc_rx (h : FHDR) (fPort : Option Byte) (frm : List Item) (ob fb b : Bytes)
    (ho : encItems h.fOpts = ok ob) (hol : ob.length ≤ 15) (hf : frmEnc fPort frm = ok fb) (hb : macEnc h fPort frm = ok b) :
    macEnc { devAddr := h.devAddr, fCtrl := rxCtrl h.fCtrl ob.length, fCnt := h.fCnt, fOpts := wireItems ob } fPort (wireItems fb) = ok b := by
  have := FrameRT.mac_canonical b _ (FrameRT.mac_dec_enc h fPort frm b hb (by rw [FrameRT.itemsBytes_of_ok ho]; exact hol))
  simp only [wirePL_mac h fPort frm ob fb ho hf, MacPL.enc] at this
  rw [← this]
  apply macEnc_fCnt
  simp only [BitVec.toNat_ofNat]; omega

/-- `q'` is the decoded frame with the 32-bit counter `f` restored -/
theorem receiver_dec (E : BlockCipher) (reg : Registry) (lp : LinkParams) (ek ak : Bytes) {hi : BitVec 32} {bs : Bytes}
    {q : PHY} {h : FHDR} {fPort : Option Byte} {frm : List Item} {f : BitVec 32} {q' : PHY}
    (hdec : PHY.dec bs = ok { q with payload := some (.mac h fPort frm) })
    (hf : hi ||| (h.fCnt &&& 0xffff#32) = f)
    (hq' : q' = { q with payload := some (.mac { h with fCnt := f } fPort frm) }) :
    receiver E reg lp ek ak hi bs =
      match validateMIC q' (calcMIC E lp q.mtype q') with
      | .ok true =>
        match rxFOpts E reg lp ek q' with
        | .ok q2 =>
          match q2.decryptFRM E reg (frmKeyOf fPort ek ak) with
          | .ok q3 => .accepted q3
          | _ => .acceptedFrmErr
        | _ => .acceptedFOptsErr
      | .ok false => .rejected
      | _ => .valErr := by
  subst hf hq'
  -- the receiver's choice between the two MIC functions moves inside `validateMIC`
  unfold receiver rxFOpts calcMIC
  rw [hdec, apply_ite (validateMIC _)]
  rfl

/-- the bytes the FOpts travel as -/
def foptsOnAir (E : BlockCipher) (lp : LinkParams) (ek : Bytes) (mt : Byte) (fPort : Option Byte) (a f : BitVec 32) (macB : Bytes) : Bytes :=
  if lp.ver != 0 then Spec.cryptFOpts E ek (Spec.useAFCntDown (isUplinkMType mt) fPort) (isUplinkMType mt) a f macB else macB

theorem foptsOnAir_length (E : BlockCipher) (hE : E.Lawful) (lp : LinkParams) (ek : Bytes) (mt : Byte) (fPort : Option Byte)
    (a f : BitVec 32) (macB : Bytes) (hl : macB.length ≤ 15) : (foptsOnAir E lp ek mt fPort a f macB).length = macB.length := by
  unfold foptsOnAir
  split
  · exact CryptoSpec.cryptFOpts_length E hE ek _ _ _ _ macB (by omega)
  · rfl

/-- In 1.0 the 15-byte bound of the command bytes is a hypothesis because `FHDR.enc` (like the Go code) lets 256 bytes through -/
theorem tx_fopts_stage (E : BlockCipher) (lp : LinkParams) (ek : Bytes) (p : PHY) (a f : BitVec 32)
    (ctrl : FCtrl) (fo : List MacCmd) (fPort : Option Byte) (frm : List Item) (p2 : PHY)
    (hfol : ∀ macB, encodeCmds fo = ok macB → macB.length ≤ 15)
    (h2 : txFOpts E lp ek { p with payload := some (.mac ⟨a, ctrl, f, cmdItems fo⟩ fPort frm) } = ok p2) :
    ∃ fo2, p2 = { p with payload := some (.mac ⟨a, ctrl, f, fo2⟩ fPort frm) } ∧
      ∀ ob, encItems fo2 = ok ob →
        ∃ macB, encodeCmds fo = ok macB ∧ macB.length ≤ 15 ∧ ob = foptsOnAir E lp ek p.mtype fPort a f macB := by
  unfold txFOpts at h2
  unfold foptsOnAir
  by_cases hv : (lp.ver != 0) = true
  · simp only [hv, if_true] at h2 ⊢
    obtain ⟨macB, fo2, hm, hl, ho2, rfl⟩ := tx_fopts E ek p _ fPort frm p2 h2
    rw [encItems_cmds] at hm
    exact ⟨fo2, rfl, fun ob ho => ⟨macB, hm, hl, ok.inj (ho.symm.trans ho2)⟩⟩
  · simp only [hv, Bool.false_eq_true, if_false, ok.injEq] at h2 ⊢
    subst h2
    refine ⟨cmdItems fo, rfl, fun ob ho => ?_⟩
    rw [encItems_cmds] at ho
    exact ⟨ob, ho, hfol ob ho, rfl⟩

theorem rx_fopts (E : BlockCipher) (hE : E.Lawful) (reg : Registry) (lp : LinkParams) (ek : Bytes) (p : PHY) (h : FHDR)
    (fPort : Option Byte) (frm : List Item) (fo : List MacCmd) (macB : Bytes)
    (hm : encodeCmds fo = ok macB) (hl : macB.length ≤ 15) (hwf : ∀ x ∈ fo, Stream.WellFramed reg (isUplinkMType p.mtype) x) :
    rxFOpts E reg lp ek
        { p with payload := some (.mac { h with fOpts := wireItems (foptsOnAir E lp ek p.mtype fPort h.devAddr h.fCnt macB) } fPort frm) }
      = ok { p with payload := some (.mac { h with fOpts := normItems fo } fPort frm) } := by
  unfold rxFOpts foptsOnAir
  split
  · exact decryptFOpts_wire E hE reg ek p h fPort frm fo macB hm hl hwf
  · exact decodeFOpts_wire reg p h fPort frm fo macB hm hwf

theorem sender_ok (E : BlockCipher) (lp : LinkParams) (ek ak : Bytes) (p : PHY) (h : FHDR) (fPort : Option Byte) (frm : List Item) (bs : Bytes)
    (hs : sender E lp ek ak { p with payload := some (.mac h fPort frm) } = ok bs) :
    ∃ p1 p2 m, PHY.encryptFRM E (frmKeyOf fPort ek ak) { p with payload := some (.mac h fPort frm) } = ok p1 ∧
      txFOpts E lp ek p1 = ok p2 ∧ calcMIC E lp p.mtype p2 = ok m ∧ PHY.enc { p2 with mic := m } = ok bs := by
  simp only [sender, ite_bind_bind, bind_eq_ok, setMIC, ok.injEq] at hs
  obtain ⟨p1, h1, p2, h2, _, ⟨m, hm, rfl⟩, hbs⟩ := hs
  exact ⟨p1, p2, m, h1, h2, hm, hbs⟩

/-- The sender's bytes end in the specification's four MIC bytes; given what precedes them followed by ANY four bytes, the receiver
accepts (ending with the sender's content) when they are those, and otherwise rejects. -/
theorem exchange_mic (E : BlockCipher) (hE : E.Lawful) (reg : Registry) (lp : LinkParams) (ek ak : Bytes) (mt mj : Byte) (mic0 : Bytes)
    (addr fcnt : BitVec 32) (ctrl : FCtrl) (fo : List MacCmd) (c : Content) (bs : Bytes)
    (hmt : mt = 2#8 ∨ mt = 3#8 ∨ mt = 4#8 ∨ mt = 5#8) (hmj : mj.toNat ≤ 3)
    (hwf : ∀ x ∈ fo, Stream.WellFramed reg (isUplinkMType mt) x) (hc : c.OK reg (isUplinkMType mt))
    (hfol : ∀ macB, encodeCmds fo = ok macB → macB.length ≤ 15)
    (hs : sender E lp ek ak { mtype := mt, major := mj, mic := mic0, payload := some (.mac { devAddr := addr, fCtrl := ctrl, fCnt := fcnt, fOpts := cmdItems fo } c.fPort c.frm) } = ok bs) :
    ∃ pre mic macB, bs = pre ++ mic ∧ mic.length = 4 ∧ encodeCmds fo = ok macB ∧ macB.length ≤ 15 ∧
      ∀ mic' : Bytes, mic'.length = 4 →
        receiver E reg lp ek ak (fcnt &&& 0xffff0000#32) (pre ++ mic') =
          if mic' = mic then
            .accepted { mtype := mt, major := mj, mic := mic, payload := some (.mac { devAddr := addr, fCtrl := rxCtrl ctrl macB.length, fCnt := fcnt, fOpts := normItems fo } c.fPort c.rx) }
          else .rejected := by
  let p0 : PHY := { mtype := mt, major := mj, mic := mic0 }
  obtain ⟨p1, p2, m, h1, h2, h3, hbs⟩ := sender_ok E lp ek ak p0 _ c.fPort c.frm bs hs
  obtain ⟨data, frm1, hd, hf1, rfl⟩ := tx_frm E hE _ p0 _ c.fPort c.frm p1 h1
  obtain ⟨fo2, rfl, hfo⟩ := tx_fopts_stage E lp ek p0 addr fcnt ctrl fo c.fPort frm1 p2 hfol h2
  rw [calcMIC_eq E lp mt _ ⟨addr, ctrl, fcnt, fo2⟩ c.fPort frm1 rfl] at h3
  simp only [bind_eq_ok, ok.injEq] at h3
  obtain ⟨b, hb, rfl⟩ := h3
  obtain ⟨ob, ho⟩ : ∃ ob, encItems fo2 = ok ob := by
    simp only [macEnc, FHDR.enc, bind_eq_ok] at hb
    obtain ⟨_, ⟨ob, ho, -⟩, -⟩ := hb
    exact ⟨ob, ho⟩
  obtain ⟨macB, hm, hl, hob⟩ := hfo ob ho
  have hlen : ob.length = macB.length := hob ▸ foptsOnAir_length E hE lp ek mt c.fPort addr fcnt macB hl
  have hml := specMIC_length E hE lp mt addr fcnt ctrl.ack (mhdrEnc mt mj :: b)
  generalize hmic : specMIC E lp mt addr fcnt ctrl.ack (mhdrEnc mt mj :: b) = mic at hbs hml
  simp only [PHY.enc, MacPL.enc, hb, ok_bind, ok.injEq] at hbs
  refine ⟨[mhdrEnc mt mj] ++ b, mic, macB, hbs.symm, hml, hm, hl, fun mic' hml' => ?_⟩
  -- the receiver decodes the wire form of what was sent, with the MIC it finds
  have hdec := FrameRT.phy_dec_enc { p0 with mic := mic', payload := some (.mac ⟨addr, ctrl, fcnt, fo2⟩ c.fPort frm1) } ([mhdrEnc mt mj] ++ b ++ mic')
    (by simp only [PHY.enc, MacPL.enc, hb, ok_bind]; rfl) (by
    rcases hmt with rfl | rfl | rfl | rfl <;> simp [Spec.shapeOK, p0, hml', FrameRT.itemsBytes_of_ok ho, hmj, hlen, hl])
  simp only [Spec.wire, Option.map_some, wirePL_mac ⟨addr, ctrl, fcnt, fo2⟩ _ _ ob _ ho hf1] at hdec
  -- `q'`: that frame with the 32-bit counter; its MIC is compared with the sender's, because it re-encodes to the bytes sent
  let q' : PHY := { p0 with mic := mic', payload := some (.mac ⟨addr, rxCtrl ctrl ob.length, fcnt, wireItems ob⟩ c.fPort
    (wireItems (Spec.cryptFRM E (frmKeyOf c.fPort ek ak) (isUplinkMType mt) addr fcnt data))) }
  have hval : validateMIC q' (calcMIC E lp mt q') = ok (mic' == mic) := by
    rw [← hmic]
    exact validate_eq E lp mt q' ⟨addr, rxCtrl ctrl ob.length, fcnt, wireItems ob⟩ c.fPort _ b rfl (macEnc_rx ⟨addr, ctrl, fcnt, fo2⟩ c.fPort frm1 _ _ b ho (by omega) hf1 hb)
  rw [receiver_dec E reg lp ek ak (q := { p0 with mic := mic' }) (q' := q') hdec (fcnt_restore fcnt) rfl, hval]
  by_cases hmm : mic' = mic
  · subst hmm hob
    rw [← hlen, if_pos rfl, beq_self_eq_true,
      show rxFOpts E reg lp ek q' = ok _ from rx_fopts E hE reg lp ek { p0 with mic := mic' } ⟨addr, _, fcnt, []⟩ c.fPort _ fo macB hm hl hwf]
    dsimp only
    rw [decryptFRM_wire E hE reg _ { p0 with mic := mic' } ⟨addr, _, fcnt, _⟩ c data hd hc]
    rfl
  · rw [if_neg hmm, beq_eq_false_iff_ne.mpr hmm]

theorem exchange (E : BlockCipher) (hE : E.Lawful) (reg : Registry) (lp : LinkParams) (ek ak : Bytes) (mt mj : Byte) (mic0 : Bytes)
    (addr fcnt : BitVec 32) (ctrl : FCtrl) (fo : List MacCmd) (c : Content) (bs : Bytes)
    (hmt : mt = 2#8 ∨ mt = 3#8 ∨ mt = 4#8 ∨ mt = 5#8) (hmj : mj.toNat ≤ 3)
    (hwf : ∀ x ∈ fo, Stream.WellFramed reg (isUplinkMType mt) x) (hc : c.OK reg (isUplinkMType mt))
    (hfol : ∀ macB, encodeCmds fo = ok macB → macB.length ≤ 15)
    (hs : sender E lp ek ak { mtype := mt, major := mj, mic := mic0, payload := some (.mac { devAddr := addr, fCtrl := ctrl, fCnt := fcnt, fOpts := cmdItems fo } c.fPort c.frm) } = ok bs) :
    ∃ mic macB, encodeCmds fo = ok macB ∧ macB.length ≤ 15 ∧
      receiver E reg lp ek ak (fcnt &&& 0xffff0000#32) bs =
        .accepted { mtype := mt, major := mj, mic := mic, payload := some (.mac { devAddr := addr, fCtrl := rxCtrl ctrl macB.length, fCnt := fcnt, fOpts := normItems fo } c.fPort c.rx) } := by
  obtain ⟨pre, mic, macB, rfl, hml, hm, hl, h⟩ := exchange_mic E hE reg lp ek ak mt mj mic0 addr fcnt ctrl fo c bs hmt hmj hwf hc hfol hs
  exact ⟨mic, macB, hm, hl, (h mic hml).trans (if_pos rfl)⟩

end LW.ExchangeProofs
