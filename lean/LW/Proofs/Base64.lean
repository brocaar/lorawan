/-
  LW.Proofs.Base64 — base64 (StdEncoding) text of any byte string decodes to it (C01 text clause).
-/
import LW.Model.Base64
namespace LW.Base64

theorem dec6_enc6 (m : Nat) : dec6 (enc6 m) = some (m % 64) := by
  have key : ∀ n : Fin 64, dec6 (enc6 n.val) = some n.val := by decide +kernel
  have := key ⟨m % 64, Nat.mod_lt _ (by decide)⟩
  simp only [enc6, Nat.mod_mod] at this ⊢
  exact this

theorem enc6_plain (m : Nat) : enc6 m ≠ '=' ∧ enc6 m ≠ '\n' ∧ enc6 m ≠ '\r' := by
  have h := dec6_enc6 m
  have h1 : dec6 '=' = none := by decide
  have h2 : dec6 '\n' = none := by decide
  have h3 : dec6 '\r' = none := by decide
  refine ⟨?_, ?_, ?_⟩
  · intro e; rw [e, h1] at h; cases h
  · intro e; rw [e, h2] at h; cases h
  · intro e; rw [e, h3] at h; cases h

theorem byte_eq (x : Nat) (b : Byte) (h : x % 256 = b.toNat) : byteOfNat x = b := by
  apply BitVec.eq_of_toNat_eq
  simp [byteOfNat, h]

theorem sextets (n : Nat) (h : n < 16777216) :
    ((n / 262144 % 64 * 64 + n / 4096 % 64) * 64 + n / 64 % 64) * 64 + n % 64 = n ∧
    (n / 262144 % 64 * 64 + n / 4096 % 64) * 64 + n / 64 % 64 = n / 64 ∧
    n / 262144 % 64 * 64 + n / 4096 % 64 = n / 4096 := by omega

theorem quantum_bytes (a b c : Byte) :
    byteOfNat ((a.toNat * 65536 + b.toNat * 256 + c.toNat) / 65536) = a ∧
    byteOfNat ((a.toNat * 65536 + b.toNat * 256 + c.toNat) / 256) = b ∧
    byteOfNat (a.toNat * 65536 + b.toNat * 256 + c.toNat) = c := by
  have ha := a.isLt
  have hb := b.isLt
  have hc := c.isLt
  exact ⟨byte_eq _ _ (by omega), byte_eq _ _ (by omega), byte_eq _ _ (by omega)⟩

/- a padded quantum is a full one whose missing bytes are zero -/
theorem decodeQuads_encode (bs : Bytes) : decodeQuads (encode bs) = some bs := by
  induction bs using encode.induct with
  | case1 a b c rest ih =>
    obtain ⟨e1, e2, e3⟩ := quantum_bytes a b c
    have hn : a.toNat * 65536 + b.toNat * 256 + c.toNat < 16777216 := by have := a.isLt; have := b.isLt; have := c.isLt; omega
    simp only [encode]
    generalize a.toNat * 65536 + b.toNat * 256 + c.toNat = n at e1 e2 e3 hn
    -- the equation for a full quantum asks that its third and fourth characters are not '='
    rw [decodeQuads]
    · simp only [dec6_enc6, Option.bind_eq_bind, Option.bind_some, ih, (sextets n hn).1, e1, e2, e3]
    · intro x; intros; exact (enc6_plain (n / 64)).1 x
    · intro x; intros; exact (enc6_plain n).1 x
  | case2 a b =>
    obtain ⟨e1, e2, -⟩ := quantum_bytes a b 0
    have hn : a.toNat * 65536 + b.toNat * 256 < 16777216 := by have := a.isLt; have := b.isLt; omega
    simp only [encode]
    simp only [show (0 : Byte).toNat = 0 from rfl, Nat.add_zero] at e1 e2
    generalize a.toNat * 65536 + b.toNat * 256 = n at e1 e2 hn
    rw [decodeQuads]
    · simp only [dec6_enc6, Option.bind_eq_bind, Option.bind_some, (sextets n hn).2.1, Nat.div_div_eq_div_mul, Nat.reduceMul, e1, e2]
    · intro x; exact (enc6_plain (n / 64)).1 x
  | case3 a =>
    obtain ⟨e1, -, -⟩ := quantum_bytes a 0 0
    have hn : a.toNat * 65536 < 16777216 := by have := a.isLt; omega
    simp only [encode]
    simp only [show (0 : Byte).toNat = 0 from rfl, Nat.zero_mul, Nat.add_zero] at e1
    generalize a.toNat * 65536 = n at e1 hn
    rw [decodeQuads]
    simp only [dec6_enc6, Option.bind_eq_bind, Option.bind_some, (sextets n hn).2.2, Nat.div_div_eq_div_mul, Nat.reduceMul, e1]
  | case4 => rfl

theorem encode_plain (bs : Bytes) : ∀ ch ∈ encode bs, ch ≠ '\n' ∧ ch ≠ '\r' := by
  have hp (m : Nat) : enc6 m ≠ '\n' ∧ enc6 m ≠ '\r' := (enc6_plain m).2
  have he : '=' ≠ '\n' ∧ '=' ≠ '\r' := by decide
  induction bs using encode.induct with
  | case1 a b c rest ih => simp only [encode, List.forall_mem_cons]; exact ⟨hp _, hp _, hp _, hp _, ih⟩
  | case2 a b => simp only [encode, List.forall_mem_cons]; exact ⟨hp _, hp _, hp _, he, by simp⟩
  | case3 a => simp only [encode, List.forall_mem_cons]; exact ⟨hp _, hp _, he, he, by simp⟩
  | case4 => simp [encode]

/-- the statement of `C01_base64`: the text contains nothing for `decode` to skip, and its quanta decode to the bytes -/
theorem decode_encode (bs : Bytes) : decode (encode bs) = some bs := by
  rw [decode, List.filter_eq_self.mpr, decodeQuads_encode]
  intro ch h
  simp only [Bool.and_eq_true, bne_iff_ne]
  exact encode_plain bs ch h

end LW.Base64
