/-
  LW.Proofs.MacSpec — the model codecs of the MAC payloads are the table-driven specification's (C06).
  Encoders: guard chain inverted in one step, then bytes and table compared as numbers (`leNat` against `packNat`).
  Decoders: the table's fields read from the bytes byte by byte (`fieldOf_cons_*`), Go's masks as such fields (`read_*`).
-/
import LW.Proofs.Pack
import LW.Proofs.Bits
namespace LW.MacSpec
open Outcome Bits

theorem fieldOf_def (n off w : Nat) : Spec.fieldOf n ⟨off, w⟩ = n / 2 ^ off % 2 ^ w := rfl

theorem packNat_cons (f : Spec.Field) (fs : List Spec.Field) (v : Nat) (vs : List Nat) :
    Spec.packNat (f :: fs) (v :: vs) = v % 2 ^ f.width * 2 ^ f.off + Spec.packNat fs vs := rfl
theorem packNat_nil : Spec.packNat [] [] = 0 := rfl

open Spec

theorem b2n_lt (o : Bool) : b2n o < 2 ^ 1 := by cases o <;> decide
theorem n2b_b2n (o : Bool) : n2b (b2n o) = o := by cases o <;> rfl
theorem b2n_bit (c : Byte) (i : Nat) : b2n (bit c i) = c.toNat / 2 ^ i % 2 := by
  rw [bit_eq]
  rcases Nat.mod_two_eq_zero_or_one (c.toNat / 2 ^ i) with h | h <;> rw [h] <;> rfl

/-- Go's `x | flag` for a `bool` written at bit `i`, above everything in `x`; the mask is passed as the model writes it -/
theorem toNat_or_flag {w : Nat} (x m : BitVec w) (o : Bool) (i : Nat) (hx : x.toNat < 2 ^ i) (hm : m.toNat = 2 ^ i) :
    (x ||| (if o then m else 0#w)).toNat = x.toNat + 2 ^ i * b2n o := by
  rw [toNat_or_add x _ i hx (by cases o <;> simp [hm])]
  cases o <;> simp [hm, b2n]

theorem toNat_dlSettings (r2 r1 : Byte) (o : Bool) (h2 : r2.toNat ≤ 15) (h1 : r1.toNat ≤ 7) :
    ((r2 ||| (r1 <<< 4)) ||| (if o then 0x80#8 else 0#8)).toNat = r2.toNat + 16 * r1.toNat + 128 * b2n o := by
  have hd := toNat_or_shl r2 r1 4 (by omega) (by omega) (by omega)
  rw [toNat_or_flag _ _ o 7 (by omega) rfl, hd]

theorem dlSettings_eq_byteOfNat (r2 r1 : Byte) (o : Bool) (h2 : r2.toNat ≤ 15) (h1 : r1.toNat ≤ 7) :
    (r2 ||| (r1 <<< 4)) ||| (if o then 0x80#8 else 0#8) = byteOfNat (r2.toNat + 16 * r1.toNat + 128 * Spec.b2n o) :=
  eq_byteOfNat (toNat_dlSettings r2 r1 o h2 h1)

theorem getLsbD_dlSettings (r2 r1 : Byte) (o : Bool) (h2 : r2.toNat ≤ 15) (h1 : r1.toNat ≤ 7) :
    ((r2 ||| (r1 <<< 4)) ||| (if o then 0x80#8 else 0#8)).getLsbD 7 = o := by
  have hb := toNat_dlSettings r2 r1 o h2 h1
  rw [BitVec.getLsbD, Nat.testBit_eq_decide_div_mod_eq, hb]
  cases o
  · rw [show b2n false = 0 from rfl]; simp; omega
  · rw [show b2n true = 1 from rfl]; simp; omega

theorem dlSettingsDec_enc (r2 r1 : Byte) (o : Bool) (h2 : r2.toNat ≤ 15) (h1 : r1.toNat ≤ 7) :
    dlSettingsDec ((r2 ||| (r1 <<< 4)) ||| (if o then 0x80#8 else 0#8)) = (o, r2, r1) := by
  have hb := toNat_dlSettings r2 r1 o h2 h1
  have ho := b2n_lt o
  have h7 := getLsbD_dlSettings r2 r1 o h2 h1
  generalize (r2 ||| (r1 <<< 4)) ||| (if o then 0x80#8 else 0#8) = b at hb h7
  have e2 : b &&& 0x0f#8 = r2 := BitVec.eq_of_toNat_eq (by rw [toNat_and_mask b _ 4 rfl]; omega)
  have e1 : (b &&& 0x70#8) >>> 4 = r1 := BitVec.eq_of_toNat_eq (by rw [toNat_and_shr b _ 4 3 rfl]; omega)
  have eo : (b &&& 0x80#8 != 0#8) = o := (and_twoPow_ne_zero b 7 (by decide)).trans h7
  rw [dlSettingsDec, e2, e1, eo]

theorem toNat_flag (u : Nat) (m : Byte) (h : u ≤ 1) : (if (u : Int) == 1 then m else 0#8).toNat = m.toNat * u := by
  have : u = 0 ∨ u = 1 := by omega
  rcases this with rfl | rfl <;> simp

theorem margin_toNat (m : Byte) (h1 : ¬ m.toInt < -32) (h2 : ¬ m.toInt > 31) :
    (if m.toInt < 0 then 64#8 + m else m).toNat = (m.toInt % 64).toNat := by
  rw [BitVec.toInt_eq_toNat_cond] at h1 h2 ⊢
  by_cases hc : 2 * m.toNat < 2 ^ 8
  · simp only [if_pos hc] at h1 h2 ⊢
    rw [if_neg (by omega)]; omega
  · simp only [if_neg hc] at h1 h2 ⊢
    rw [if_pos (by omega), BitVec.toNat_add, BitVec.toNat_ofNat]; omega

theorem tdiv_natCast (n k : Nat) : tdiv (n : Int) (k : Int) = ((n / k : Nat) : Int) := (Int.ofNat_tdiv n k).symm

theorem freqCode_eq_some {f : BitVec 32} {c : Nat} :
    freqCode f = some c ↔ ¬ f.toNat / 100 ≥ 16777216 ∧ f.toNat % 100 = 0 ∧ c = f.toNat / 100 := by
  simp only [freqCode, Option.ite_none_right_eq_some, Option.some.injEq]
  omega

theorem freqCodeNC_eq (f : BitVec 32) (h1 : ¬ (if f.toNat ≥ 2400000000 then f.toNat / 2 else f.toNat) / 100 ≥ 16777216)
    (h2 : f.toNat % 100 = 0) (h3 : ¬ (f.toNat ≥ 2400000000 ∧ f.toNat % 200 ≠ 0))
    (h4 : ¬ (f.toNat < 2400000000 ∧ f.toNat / 100 ≥ 12000000)) :
    freqCodeNC f = some ((if f.toNat ≥ 2400000000 then f.toNat / 2 else f.toNat) / 100) := by
  unfold freqCodeNC
  by_cases hb : f.toNat ≥ 2400000000
  · simp only [if_pos hb] at h1 ⊢
    rw [if_pos (by omega)]; congr 1; omega
  · simp only [if_neg hb] at h1 ⊢
    rw [if_pos (by omega)]

theorem freqCodeNC_some (f : BitVec 32) (c : Nat) (h : freqCodeNC f = some c) :
    c < 16777216 ∧ (if c ≥ 12000000 then c * 200 else c * 100) = f.toNat := by
  unfold freqCodeNC at h
  split at h
  · simp only [Option.ite_none_right_eq_some, Option.some.injEq] at h
    rw [if_pos (by omega)]; omega
  · simp only [Option.ite_none_right_eq_some, Option.some.injEq] at h
    rw [if_neg (by omega)]; omega

theorem lt_iff (b : Byte) (n : Nat) : lt b n = true ↔ b.toNat < n := decide_eq_true_iff

theorem enc_of_fields {v : MacP} {vals : List Nat} {bs : Bytes} (hf : toFields v = some vals)
    (hl : bs.length = (layout v.kind).1) (hn : leNat bs = packNat (layout v.kind).2 vals % 256 ^ (layout v.kind).1) :
    Spec.enc v = some bs := by
  unfold Spec.enc
  split
  · cases hf
  · rw [hf, Option.map_some, pack, leBytes_eq hl hn]

theorem enc_inv {v : MacP} {bs : Bytes} (h : Spec.enc v = some bs) :
    v = .proprietary bs ∨ ∃ vals, toFields v = some vals ∧ pack (layout v.kind).1 (layout v.kind).2 vals = bs := by
  unfold Spec.enc at h
  split at h
  · cases h; exact Or.inl rfl
  · exact Or.inr (Option.map_eq_some_iff.mp h)

theorem enc_sound {v : MacP} {bs : Bytes} (h : v.enc = ok bs) : Spec.enc v = some bs := by
  cases v with
  | resetInd m | resetConf m | rekeyInd m | rekeyConf m | dutyCycleReq m | rxTimingSetupReq m | pingSlotInfoReq m =>
    simp only [MacP.enc, ite_err_eq_ok, ok.injEq] at h
    obtain ⟨h1, rfl⟩ := h
    refine enc_of_fields (by simp only [toFields, lt_iff]; exact if_pos (by omega)) rfl ?_
    · simp only [MacP.kind, layout, leNat, packNat_cons, packNat_nil]
      omega
  | linkCheckAns a b =>
    cases ok.inj h
    refine enc_of_fields rfl rfl ?_
    simp only [MacP.kind, layout, leNat, packNat_cons, packNat_nil]
    omega
  | deviceModeInd c | deviceModeConf c =>
    cases ok.inj h
    refine enc_of_fields rfl rfl ?_
    simp only [MacP.kind, layout, leNat, packNat_cons, packNat_nil]
    omega
  | linkADRReq dr txp mask cntl nb =>
    simp only [MacP.enc, redundancyEnc, chMaskEnc, ite_err_bind, ok_bind, ite_err_eq_ok, ok.injEq] at h
    obtain ⟨h1, h2, h3, h4, rfl⟩ := h
    refine enc_of_fields (by simp only [toFields, lt_iff]; exact if_pos (by omega)) rfl ?_
    · simp only [MacP.kind, layout, leNat_append, leNat_singleton, leNat_leBytes, List.length_append, List.length_cons,
        List.length_nil, leBytes_length, packNat_cons, packNat_nil, toNat_xor_shl txp dr 4 (by omega) (by omega) (by omega),
        toNat_xor_shl nb cntl 4 (by omega) (by omega) (by omega)]
      omega
  | linkADRAns a b c | rxParamSetupAns a b c =>
    cases ok.inj h
    cases a <;> cases b <;> cases c <;> decide
  | newChannelAns a b | dlChannelAns a b | pingSlotChannelAns a b =>
    cases ok.inj h
    cases a <;> cases b <;> decide
  | beaconFreqAns a | rejoinParamSetupAns a =>
    cases ok.inj h
    cases a <;> decide
  | rxParamSetupReq f o r2 r1 =>
    simp only [MacP.enc, dlSettingsEnc, ite_err_bind, ok_bind, ite_err_eq_ok, ok.injEq, bne_iff_ne, ne_eq, Decidable.not_not] at h
    obtain ⟨h1, h2, h3, h4, rfl⟩ := h
    refine enc_of_fields (by simp only [toFields, freqCode_eq_some.mpr ⟨h1, h2, rfl⟩, lt_iff]; exact if_pos (by omega)) rfl ?_
    · have := b2n_lt o
      simp only [MacP.kind, layout, leNat, leNat_leBytes, packNat_cons, packNat_nil,
        toNat_dlSettings r2 r1 o (by omega) (by omega)]
      omega
  | devStatusAns bat m =>
    simp only [MacP.enc, ite_err_eq_ok] at h
    obtain ⟨h1, h2, h⟩ := h
    have hb : ok [bat, if m.toInt < 0 then 64#8 + m else m] = ok bs := by rw [← h]; split <;> rfl
    cases hb
    refine enc_of_fields (by simp only [toFields]; exact if_pos (by omega)) rfl ?_
    simp only [MacP.kind, layout, leNat, packNat_cons, packNat_nil, margin_toNat m h1 h2]
    omega
  | newChannelReq ch f mx mn =>
    simp only [MacP.enc, ite_err_eq_ok, ok.injEq, bne_iff_ne, ne_eq, Decidable.not_not] at h
    obtain ⟨h1, h2, h3, h4, h5, h6, rfl⟩ := h
    refine enc_of_fields (by simp only [toFields, freqCodeNC_eq f h1 h2 h3 h4, lt_iff]; exact if_pos (by omega)) rfl ?_
    · simp only [MacP.kind, layout, leNat_append, leNat_singleton, leNat_leBytes, List.length_append, List.length_cons,
        List.length_nil, leBytes_length, packNat_cons, packNat_nil, toNat_xor_shl mn mx 4 (by omega) (by omega) (by omega)]
      generalize (if f.toNat ≥ 2400000000 then f.toNat / 2 else f.toNat) / 100 = c at h1
      omega
  | txParamSetupReq dn up e =>
    simp only [MacP.enc, ite_err_eq_ok, ok.injEq, bne_iff_ne, ne_eq] at h
    obtain ⟨h1, h2, h3, rfl⟩ := h
    obtain ⟨u, rfl⟩ : ∃ u : Nat, up = u := ⟨up.toNat, by omega⟩
    obtain ⟨d, rfl⟩ : ∃ d : Nat, dn = d := ⟨dn.toNat, by omega⟩
    have hu : u ≤ 1 := by omega
    have hd : d ≤ 1 := by omega
    refine enc_of_fields (by simp only [toFields, lt_iff]; exact if_pos (by omega)) rfl ?_
    · have e1 : (e ^^^ (if (u : Int) == 1 then 0x10#8 else 0#8)).toNat = e.toNat + 16 * u := by
        rw [toNat_xor_add _ _ 4 (by omega) (by rw [toNat_flag u _ hu]; exact Nat.dvd_mul_right ..), toNat_flag u _ hu]; rfl
      have e2 : ((e ^^^ (if (u : Int) == 1 then 0x10#8 else 0#8)) ^^^ (if (d : Int) == 1 then 0x20#8 else 0#8)).toNat
          = e.toNat + 16 * u + 32 * d := by
        rw [toNat_xor_add _ _ 5 (by omega) (by rw [toNat_flag d _ hd]; exact Nat.dvd_mul_right ..), toNat_flag d _ hd, e1]; rfl
      simp only [MacP.kind, layout, leNat, packNat_cons, packNat_nil, e2, Int.toNat_natCast]
      omega
  | dlChannelReq ch f =>
    simp only [MacP.enc, freq100Enc, ite_err_bind, ok_bind, ite_err_eq_ok, ok.injEq, bne_iff_ne, ne_eq, Decidable.not_not] at h
    obtain ⟨h1, h2, rfl⟩ := h
    refine enc_of_fields (by simp only [toFields, freqCode_eq_some.mpr ⟨h1, h2, rfl⟩]; rfl) rfl ?_
    simp only [MacP.kind, layout, leNat, leNat_leBytes, packNat_cons, packNat_nil]
    omega
  | beaconFreqReq f =>
    simp only [MacP.enc, freq100Enc, ite_err_eq_ok, ok.injEq, bne_iff_ne, ne_eq, Decidable.not_not] at h
    obtain ⟨h1, h2, rfl⟩ := h
    refine enc_of_fields (by simp only [toFields, freqCode_eq_some.mpr ⟨h1, h2, rfl⟩]; rfl) rfl ?_
    simp only [MacP.kind, layout, leNat_leBytes, packNat_cons, packNat_nil]
    omega
  | pingSlotChannelReq f dr =>
    simp only [MacP.enc, freq100Enc, ite_err_bind, ok_bind, ite_err_eq_ok, ok.injEq, bne_iff_ne, ne_eq, Decidable.not_not] at h
    obtain ⟨h1, h2, h3, rfl⟩ := h
    refine enc_of_fields (by simp only [toFields, freqCode_eq_some.mpr ⟨h1, h2, rfl⟩, lt_iff]; exact if_pos (by omega)) rfl ?_
    · simp only [MacP.kind, layout, leNat_append, leNat_singleton, leNat_leBytes, leBytes_length, packNat_cons, packNat_nil]
      omega
  | deviceTimeAns ns =>
    simp only [MacP.enc, ite_err_eq_ok, ok.injEq, not_or, Int.not_lt] at h
    obtain ⟨⟨h1, h2⟩, rfl⟩ := h
    obtain ⟨n, rfl⟩ := Int.eq_ofNat_of_zero_le h1
    have e1 : tdiv (n : Int) second = ((n / 1000000000 : Nat) : Int) := tdiv_natCast n 1000000000
    have e2 : (((n / 1000000000 : Nat) : Int) % 4294967296).toNat = n / 1000000000 := by omega
    have e3 : wrap64 ((n : Int) - ((n / 1000000000 : Nat) : Int) * second) = ((n % 1000000000 : Nat) : Int) := by
      unfold wrap64 second; omega
    have e4 : tdiv ((n % 1000000000 : Nat) : Int) 3906250 = ((n % 1000000000 / 3906250 : Nat) : Int) :=
      tdiv_natCast _ 3906250
    simp only [e1, e2, e3, e4, BitVec.ofInt_natCast]
    refine enc_of_fields (by simp only [toFields]; exact if_pos (by omega)) rfl ?_
    simp only [MacP.kind, layout, leNat_append, leNat_singleton, leNat_leBytes, leBytes_length, packNat_cons, packNat_nil,
      BitVec.toNat_ofNat]
    have s1 : ((n : Int) / 1000000000).toNat = n / 1000000000 := by omega
    have s2 : ((n : Int) % 1000000000 / 3906250).toNat = n % 1000000000 / 3906250 := by omega
    rw [s1, s2]
    -- `omega` is several times faster once the two quotients are atoms with their bounds
    have hs : n / 1000000000 < 4294967296 := by omega
    have hr : n % 1000000000 / 3906250 < 256 := by omega
    generalize n / 1000000000 = s at hs ⊢
    generalize n % 1000000000 / 3906250 = r at hr ⊢
    clear e1 e2 e3 e4 s1 s2 h1 h2
    omega
  | adrParamSetupReq l d | rejoinParamSetupReq l d =>
    simp only [MacP.enc, ite_err_eq_ok, ok.injEq] at h
    obtain ⟨h1, h2, rfl⟩ := h
    refine enc_of_fields (by simp only [toFields, lt_iff]; exact if_pos (by omega)) rfl ?_
    · simp only [MacP.kind, layout, leNat, packNat_cons, packNat_nil, toNat_or_shl d l 4 (by omega) (by omega) (by omega)]
      omega
  | forceRejoinReq p r t d =>
    simp only [MacP.enc, ite_err_eq_ok, ok.injEq, bne_iff_ne, ne_eq, ← BitVec.toNat_inj, BitVec.ofNat_eq_ofNat, BitVec.toNat_ofNat,
      Nat.reducePow, Nat.reduceMod] at h
    obtain ⟨h1, h2, h3, h4, rfl⟩ := h
    refine enc_of_fields (by simp only [toFields, lt_iff]; exact if_pos (by omega)) rfl ?_
    · simp only [MacP.kind, layout, leNat, packNat_cons, packNat_nil, toNat_or_shl d t 4 (by omega) (by omega) (by omega),
        toNat_or_shl r p 3 (by omega) (by omega) (by omega)]
      omega
  | proprietary b =>
    cases ok.inj h
    rfl

end LW.MacSpec

-- `accepts` stands here, not in MacRT.lean, because `enc_iff` below rests on it
namespace LW.MacRT
open Outcome

theorem accepts (v : MacP) (h : (Spec.toFields v).isSome = true) : v.enc.isOk = true := by
  open Spec MacSpec in
  cases v with
  | linkCheckAns | linkADRAns | rxParamSetupAns | newChannelAns | dlChannelAns | beaconFreqAns | pingSlotChannelAns
  | rejoinParamSetupAns | deviceModeInd | deviceModeConf | proprietary => rfl
  | resetInd | resetConf | rekeyInd | rekeyConf | dutyCycleReq | rxTimingSetupReq | pingSlotInfoReq | linkADRReq
  | adrParamSetupReq | rejoinParamSetupReq | txParamSetupReq | forceRejoinReq =>
    simp only [toFields, lt_iff, Option.isSome_ite] at h
    simp only [MacP.enc, redundancyEnc, ite_err_bind, ok_bind, ite_err_isOk, isOk_ok, and_true, bne_iff_ne, ne_eq,
      ← BitVec.toNat_inj, BitVec.ofNat_eq_ofNat, BitVec.toNat_ofNat, Nat.reducePow, Nat.reduceMod]
    omega
  | devStatusAns bat m =>
    simp only [toFields, Option.isSome_ite] at h
    simp only [MacP.enc, ite_err_isOk]
    refine ⟨by omega, by omega, ?_⟩
    split <;> rfl
  | deviceTimeAns ns =>
    simp only [toFields, Option.isSome_ite] at h
    obtain ⟨n, rfl⟩ := Int.eq_ofNat_of_zero_le h.1
    simp only [MacP.enc, ite_err_isOk, isOk_ok, and_true,
      show tdiv (n : Int) second = ((n / 1000000000 : Nat) : Int) from tdiv_natCast n 1000000000]
    omega
  | rxParamSetupReq f o r2 r1 | dlChannelReq ch f | beaconFreqReq f | pingSlotChannelReq f d =>
    simp only [toFields] at h
    split at h
    · rename_i c hc
      obtain ⟨h1, h2, rfl⟩ := freqCode_eq_some.mp hc
      simp only [lt_iff, Option.isSome_ite, Option.isSome_some] at h
      simp only [MacP.enc, dlSettingsEnc, freq100Enc, ite_err_bind, ok_bind, ite_err_isOk, isOk_ok, and_true, bne_iff_ne, ne_eq]
      omega
    · cases h
  | newChannelReq ch f mx mn =>
    simp only [toFields] at h
    split at h
    · rename_i c hc
      simp only [lt_iff, Option.isSome_ite] at h
      simp only [freqCodeNC] at hc
      simp only [MacP.enc, ite_err_isOk, isOk_ok, and_true, bne_iff_ne, ne_eq]
      split at hc <;> simp only [Option.ite_none_right_eq_some, Option.some.injEq] at hc <;> split <;> omega
    · cases h

end LW.MacRT

namespace LW.MacSpec
open Outcome Bits Spec Pack

theorem enc_iff {v : MacP} {bs : Bytes} : v.enc = ok bs ↔ Spec.enc v = some bs := by
  refine ⟨enc_sound, fun h => ?_⟩
  rcases enc_inv h with rfl | ⟨vals, hv, -⟩
  · rfl
  · obtain ⟨bs', hb⟩ := isOk_iff.mp (MacRT.accepts v (by rw [hv]; rfl))
    rw [hb, Option.some.inj ((enc_sound hb).symm.trans h)]

theorem layout_wf (k : Kind) : WF (layout k).1 (layout k).2 := by
  cases k <;> decide

theorem read_lo4 (b : Byte) : b &&& 0x0f#8 = BitVec.ofNat 8 (b.toNat % 2 ^ 4) := eq_byteOfNat (toNat_and_mask b _ 4 rfl)
theorem read_lo3 (b : Byte) : b &&& 7#8 = BitVec.ofNat 8 (b.toNat % 2 ^ 3) := eq_byteOfNat (toNat_and_mask b _ 3 rfl)
theorem read_hi4 (b : Byte) : (b &&& 0xf0#8) >>> 4 = BitVec.ofNat 8 (b.toNat / 2 ^ 4 % 2 ^ 4) :=
  eq_byteOfNat (toNat_and_shr b _ 4 4 rfl)
theorem read_hi3 (b : Byte) : (b &&& 0x70#8) >>> 4 = BitVec.ofNat 8 (b.toNat / 2 ^ 4 % 2 ^ 3) :=
  eq_byteOfNat (toNat_and_shr b _ 4 3 rfl)
theorem read_mid3 (b : Byte) : (b &&& 0x38#8) >>> 3 = BitVec.ofNat 8 (b.toNat / 2 ^ 3 % 2 ^ 3) :=
  eq_byteOfNat (toNat_and_shr b _ 3 3 rfl)
theorem read_shr4 (b : Byte) : b >>> 4 = BitVec.ofNat 8 (b.toNat / 2 ^ 4 % 2 ^ 4) :=
  eq_byteOfNat (by rw [toNat_shr]; have := b.isLt; omega)
theorem read_bit (b : Byte) (i : Nat) : bit b i = n2b (b.toNat / 2 ^ i % 2 ^ 1) := by
  rw [← b2n_bit, n2b_b2n]
theorem ite_n2b (x : Nat) : (if n2b (x % 2 ^ 1) = true then (1 : Int) else 0) = ((x % 2 ^ 1 : Nat) : Int) := by
  rcases Nat.mod_two_eq_zero_or_one x with h | h <;> simp [n2b, h]
theorem read_optneg (b : Byte) : (b &&& 0x80#8 != 0#8) = n2b (b.toNat / 2 ^ 7 % 2 ^ 1) :=
  (and_twoPow_ne_zero b 7 (by decide)).trans (read_bit b 7)
theorem read_lo6 (b : Byte) : b &&& 0x3f#8 = BitVec.ofNat 8 (b.toNat % 2 ^ 6) := eq_byteOfNat (toNat_and_mask b _ 6 rfl)
theorem margin_byte (m : Byte) : (if (m &&& 0x3f#8).toNat > 31 then (m &&& 0x3f#8) - 64#8 else m &&& 0x3f#8) =
    BitVec.ofInt 8 (if m.toNat % 2 ^ 6 ≥ 32 then ((m.toNat % 2 ^ 6 : Nat) : Int) - 64 else ((m.toNat % 2 ^ 6 : Nat) : Int)) := by
  have hr := Nat.mod_lt m.toNat (show 2 ^ 6 > 0 by decide)
  rw [read_lo6, BitVec.toNat_ofNat, Nat.mod_eq_of_lt (by omega)]
  generalize m.toNat % 2 ^ 6 = r at hr
  split
  · rw [if_pos (by omega)]
    apply BitVec.eq_of_toNat_eq
    rw [BitVec.toNat_sub, BitVec.toNat_ofInt, BitVec.toNat_ofNat, BitVec.toNat_ofNat]
    omega
  · rw [if_neg (by omega), BitVec.ofInt_natCast]

theorem dec0_err_of_length (k : Kind) (bs : Bytes) (hk : k ≠ .proprietary) (hl : bs.length ≠ (layout k).1) :
    k.dec0 bs = err := by
  unfold Kind.dec0 Kind.dec
  split
  -- a branch is the final `err`, or has fixed the length of `bs`, or is `proprietary`
  all_goals first | rfl | exact absurd rfl hl | exact absurd rfl hk

theorem dec_of_length (k : Kind) (bs : Bytes) (hk : k ≠ .proprietary) (hl : bs.length = (layout k).1) :
    Spec.dec k bs = ofFields k (unpack (layout k).2 bs) := by
  unfold Spec.dec
  split
  · exact absurd rfl hk
  · exact if_pos hl

theorem dec_spec_len (k : Kind) (bs : Bytes) (hk : k ≠ .proprietary) (hl : bs.length = (layout k).1) :
    (k.dec0 bs).toOption = Spec.dec k bs := by
  rw [dec_of_length k bs hk hl]
  cases k with
  | proprietary => exact absurd rfl hk
  | resetInd | resetConf | rekeyInd | rekeyConf | linkADRAns | dutyCycleReq | rxParamSetupAns | newChannelAns | rxTimingSetupReq
  | txParamSetupReq | dlChannelAns | pingSlotInfoReq | beaconFreqAns | pingSlotChannelAns | rejoinParamSetupReq
  | rejoinParamSetupAns | deviceModeInd | deviceModeConf =>
    match bs, hl with
    | [b], _ =>
      simp only [Kind.dec0, Kind.dec, toOption, layout, unpack, List.map, ofFields, byteN, fieldOf_cons_low, Nat.reduceLeDiff,
        Nat.pow_zero, Nat.div_one, BitVec.toNat_mod_cancel, BitVec.ofNat_toNat, BitVec.setWidth_eq, read_lo4, read_lo3, read_hi4, read_bit, ite_n2b]
  | adrParamSetupReq =>
    -- apart: `read_shr4` would also fire on `(b &&& 0xf0) >>> 4`
    match bs, hl with
    | [b], _ =>
      simp only [Kind.dec0, Kind.dec, toOption, layout, unpack, List.map, ofFields, byteN, fieldOf_cons_low, Nat.reduceLeDiff,
        Nat.pow_zero, Nat.div_one, read_lo4, read_shr4]
  | linkCheckAns | forceRejoinReq | devStatusAns =>
    match bs, hl with
    | [b0, b1], _ =>
      simp only [Kind.dec0, Kind.dec, toOption, layout, unpack, List.map, ofFields, byteN, fieldOf_cons_skip, fieldOf_cons_low,
        Nat.reduceLeDiff, Nat.pow_zero, Nat.div_one, BitVec.toNat_mod_cancel, BitVec.ofNat_toNat, BitVec.setWidth_eq, read_lo4, read_lo3, read_hi3,
        read_mid3, margin_byte]
  | beaconFreqReq =>
    -- `leNat` goes in a second step: unfolded first, it hides the `leNat` the field lemmas look for
    match bs, hl with
    | [b0, b1, b2], _ =>
      simp only [Kind.dec0, Kind.dec, toOption, layout, unpack, List.map, ofFields, fieldOf_cons_wide, fieldOf_cons_low, Nat.reduceAdd,
        Nat.reduceLeDiff, Nat.pow_zero, Nat.div_one, BitVec.toNat_mod_cancel, freq100Dec]
      simp only [leNat, Nat.mul_zero, Nat.add_zero]
  | linkADRReq | rxParamSetupReq | dlChannelReq | pingSlotChannelReq =>
    match bs, hl with
    | [b0, b1, b2, b3], _ =>
      simp only [Kind.dec0, Kind.dec, toOption, layout, unpack, List.map, ofFields, byteN, fieldOf_cons_skip, fieldOf_cons_low,
        fieldOf_cons_wide, Nat.reduceAdd, Nat.reduceLeDiff, Nat.pow_zero, Nat.div_one, BitVec.toNat_mod_cancel, BitVec.ofNat_toNat, BitVec.setWidth_eq,
        freq100Dec, dlSettingsDec, read_lo4, read_hi4, read_hi3, read_optneg]
      simp only [leNat, Nat.mul_zero, Nat.add_zero]
  | newChannelReq =>
    match bs, hl with
    | [b0, b1, b2, b3, b4], _ =>
      simp only [Kind.dec0, Kind.dec, toOption, layout, unpack, List.map, ofFields, byteN, fieldOf_cons_skip, fieldOf_cons_low,
        fieldOf_cons_wide, Nat.reduceAdd, Nat.reduceLeDiff, Nat.pow_zero, Nat.div_one, BitVec.toNat_mod_cancel, BitVec.ofNat_toNat, BitVec.setWidth_eq,
        read_lo4, read_hi4, apply_ite (BitVec.ofNat 32)]
      rfl
  | deviceTimeAns =>
    match bs, hl with
    | [b0, b1, b2, b3, b4], _ =>
      simp only [Kind.dec0, Kind.dec, toOption, layout, unpack, List.map, ofFields, fieldOf_cons_skip, fieldOf_cons_low,
        fieldOf_cons_wide, Nat.reduceAdd, Nat.reduceLeDiff, Nat.pow_zero, Nat.div_one, BitVec.toNat_mod_cancel, second]
      simp only [leNat, Nat.mul_zero, Nat.add_zero]

theorem dec_spec (k : Kind) (bs : Bytes) : (k.dec0 bs).toOption = Spec.dec k bs := by
  by_cases hk : k = .proprietary
  · subst hk; rfl
  · by_cases hl : bs.length = (layout k).1
    · exact dec_spec_len k bs hk hl
    · rw [dec0_err_of_length k bs hk hl]
      unfold Spec.dec
      split
      · exact absurd rfl hk
      · exact (if_neg hl).symm

end LW.MacSpec
