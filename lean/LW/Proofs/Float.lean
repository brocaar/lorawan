/-
  The binary64 error analysis behind C17's Frequency and Percentage clauses.
  Kernel trap: a term like `m * 1000000` with a variable left factor must never be unfolded by the kernel (Nat.mul recurses
  on the literal); the scale stays a variable up to the last step.
-/
import Mathlib.Tactic.Linarith
import Mathlib.Tactic.Ring
import LW.Proofs.Round
namespace LW.Backend

theorem expOf_ge (n d : Nat) : min 1074 (51 - (Nat.log2 n : Int) + (Nat.log2 d : Int)) ≤ expOf n d := by
  unfold expOf
  simp only
  split <;> split <;> (try split) <;> omega

theorem expOf_le (n d : Nat) : expOf n d ≤ 1074 := by
  unfold expOf; simp only; split <;> omega

theorem log2_le_of_lt {n k : Nat} (hn : n ≠ 0) (h : n < 2 ^ (k + 1)) : Nat.log2 n ≤ k := by
  have := (Nat.log2_lt hn).2 h; omega

/-- fl(n/d) away from the subnormal floor and overflow: within half a unit of the last place 2^-k -/
theorem roundPos_near (n d : Nat) (hn : n ≠ 0) (hd : 0 < d) (hk : 0 ≤ expOf n d) :
    ∃ m k : Nat, roundPos n d = some (m, (k : Int)) ∧ expOf n d = k ∧
      2 * (m * d) ≤ 2 * (n * 2 ^ k) + d ∧ 2 * (n * 2 ^ k) ≤ 2 * (m * d) + d := by
  obtain ⟨k, hk'⟩ := Int.eq_ofNat_of_zero_le hk
  refine ⟨rne (n * 2 ^ k) d, k, ?_, hk', rne_bounds _ _ hd⟩
  have hno : ¬ (expOf n d ≤ -971 ∧ rne (scaled n d (expOf n d)).1 (scaled n d (expOf n d)).2 ≥ 2 ^ (1024 + expOf n d).toNat) := by omega
  simp only [roundPos, hn, if_false, hno]
  simp [hk', scaled]

theorem float_of_nat (f : Nat) (h0 : f ≠ 0) (hf : f < 2 ^ 32) :
    ∃ k1 : Nat, roundPos f 1 = some (f * 2 ^ k1, (k1 : Int)) := by
  have hl : Nat.log2 f ≤ 31 := log2_le_of_lt h0 hf
  have hge := expOf_ge f 1
  have h1 : Nat.log2 1 = 0 := by decide
  obtain ⟨m, k, hr, _, b1, b2⟩ := roundPos_near f 1 h0 (by decide) (by omega)
  have : m = f * 2 ^ k := by omega
  exact ⟨k, this ▸ hr⟩

theorem div_step (scale f k1 : Nat) (hs : 0 < scale) (hs1 : Nat.log2 scale ≤ 1023) (h0 : f ≠ 0) (hf : f < 2 ^ 32) :
    ∃ m2 k2 : Nat, divInt (f * 2 ^ k1, (k1 : Int)) scale = some (m2, (k2 : Int)) ∧ scale * 2 ^ 19 ≤ 2 ^ k2 ∧
      2 * (m2 * scale) ≤ 2 * (f * 2 ^ k2) + scale ∧ 2 * (f * 2 ^ k2) ≤ 2 * (m2 * scale) + scale := by
  have hP : 0 < 2 ^ k1 := Nat.pow_pos (by decide)
  have hn : f * 2 ^ k1 ≠ 0 := Nat.mul_ne_zero h0 (by omega)
  have hd : scale * 2 ^ k1 ≠ 0 := Nat.mul_ne_zero (by omega) (by omega)
  have hln : Nat.log2 (f * 2 ^ k1) ≤ 31 + k1 := by
    apply log2_le_of_lt hn
    rw [show 31 + k1 + 1 = 32 + k1 by omega, Nat.pow_add]
    exact Nat.mul_lt_mul_of_pos_right hf hP
  have hld : Nat.log2 scale + k1 ≤ Nat.log2 (scale * 2 ^ k1) := by
    rw [Nat.le_log2 hd, Nat.pow_add]
    exact Nat.mul_le_mul_right _ (Nat.log2_self_le (by omega))
  -- a quotient below 2^32 / 2^L (L = log2 scale) gets k2 ≥ 51 - 31 + L places, under the cap 1074 by `hs1`:
  -- 2^k2 ≥ 2^19 · 2^(L+1) > 2^19 · scale
  have hge := expOf_ge (f * 2 ^ k1) (scale * 2 ^ k1)
  obtain ⟨m2, k2, hr, hk2, b1, b2⟩ := roundPos_near (f * 2 ^ k1) (scale * 2 ^ k1) hn (by omega) (by omega)
  refine ⟨m2, k2, ?_, ?_, ?_, ?_⟩
  · simpa [divInt] using hr
  · calc scale * 2 ^ 19 ≤ 2 ^ (Nat.log2 scale + 1) * 2 ^ 19 := Nat.mul_le_mul_right _ (Nat.le_of_lt Nat.lt_log2_self)
      _ = 2 ^ (Nat.log2 scale + 1 + 19) := (Nat.pow_add ..).symm
      _ ≤ 2 ^ k2 := Nat.pow_le_pow_right (by decide) (by omega)
  · apply Nat.le_of_mul_le_mul_right _ hP
    linarith
  · apply Nat.le_of_mul_le_mul_right _ hP
    linarith

theorem round_half_away_eq (m K f : Nat) (hK : 0 < K) (h1 : 2 * m < 2 * f * K + K) (h2 : 2 * f * K < 2 * m + K) :
    (if 2 * (m % K) ≥ K then m / K + 1 else m / K) = f := by
  have hdm := Nat.div_add_mod m K
  have hr := Nat.mod_lt m hK
  generalize m / K = q at *
  generalize m % K = r at *
  have e : 2 * f * K = 2 * (K * f) := by ring
  split
  · have a : K * q < K * f := by omega
    have b : K * f < K * (q + 2) := by rw [Nat.mul_add]; omega
    have := Nat.lt_of_mul_lt_mul_left a
    have := Nat.lt_of_mul_lt_mul_left b
    omega
  · have a : K * f < K * (q + 1) := by rw [Nat.mul_add]; omega
    have b : K * q < K * (f + 1) := by rw [Nat.mul_add]; omega
    have := Nat.lt_of_mul_lt_mul_left a
    have := Nat.lt_of_mul_lt_mul_left b
    omega

theorem mul_round_step (scale f m2 k2 : Nat) (hs : 0 < scale) (h0 : f ≠ 0) (hf : f < 2 ^ 32) (hk2 : scale * 2 ^ 19 ≤ 2 ^ k2)
    (A1 : 2 * (m2 * scale) ≤ 2 * (f * 2 ^ k2) + scale) (A2 : 2 * (f * 2 ^ k2) ≤ 2 * (m2 * scale) + scale) (neg : Bool) :
    unmarshalScaled scale neg (m2, (k2 : Int)) = some (if neg then -(f : Int) else f) := by
  have hld : Nat.log2 (2 ^ k2) = k2 := Nat.log2_two_pow
  have hpow : (2 : Nat) ^ (31 + k2 + 1) = 2 ^ 32 * 2 ^ k2 := by rw [show 31 + k2 + 1 = 32 + k2 by omega, Nat.pow_add]
  generalize hK : 2 ^ k2 = K2 at *
  have hfK : f * K2 + K2 ≤ 2 ^ 32 * K2 := by rw [← Nat.succ_mul]; exact Nat.mul_le_mul_right _ hf
  have hfK' : K2 ≤ f * K2 := Nat.le_mul_of_pos_left _ (by omega)
  have hn : m2 * scale ≠ 0 := by omega
  have hln : Nat.log2 (m2 * scale) ≤ 31 + k2 := log2_le_of_lt hn (by omega)
  -- m2·scale / K2 is below 2^32 again: k3 ≥ 51 - 31 places
  have hge := expOf_ge (m2 * scale) K2
  obtain ⟨m3, k3, hr, hk3, B1, B2⟩ := roundPos_near (m2 * scale) K2 hn (by omega) (by omega)
  have hK3 : 2 ^ 20 ≤ 2 ^ k3 := Nat.pow_le_pow_right (by decide) (by omega)
  have hmul : mulInt (m2, (k2 : Int)) scale = some (m3, (k3 : Int)) := by simpa [mulInt, hK] using hr
  have hpos : ¬ ((k3 : Int) ≤ 0) := by omega
  simp only [unmarshalScaled, hmul, Option.bind_eq_bind, Option.bind_some, roundHalfAway, if_neg hpos, Int.toNat_natCast,
    Option.pure_def, Option.some.injEq]
  generalize 2 ^ k3 = K3 at *
  -- the two rounding errors, scale/(2·K2) and 1/(2·K3), stay below the 1/2 of `math.Round`
  have hsmall : scale * K3 + K2 < K2 * K3 := by
    have := Nat.mul_le_mul_right K3 hk2
    have := Nat.mul_le_mul_left K2 hK3
    linarith
  have h1 : 2 * m3 < 2 * f * K3 + K3 := by
    apply Nat.lt_of_mul_lt_mul_right (a := K2)
    have := Nat.mul_le_mul_right K3 A1
    linarith
  have h2 : 2 * f * K3 < 2 * m3 + K3 := by
    apply Nat.lt_of_mul_lt_mul_right (a := K2)
    have := Nat.mul_le_mul_right K3 A2
    linarith
  rw [round_half_away_eq m3 K3 f (by omega) h1 h2]

theorem marshal_of (scale : Nat) (v : Int) (x y : Nat × Int) (h1 : roundPos v.natAbs 1 = some x) (h2 : divInt x scale = some y) :
    marshalScaled scale v = some (decide (v < 0), y) := by
  unfold marshalScaled
  rw [h1]
  show (divInt x scale).bind (fun y => some (decide (v < 0), y)) = _
  rw [h2]
  rfl

theorem roundTrip_of (scale : Nat) (v : Int) (neg : Bool) (x : Nat × Int) (r : Int)
    (h1 : marshalScaled scale v = some (neg, x)) (h2 : unmarshalScaled scale neg x = some r) : roundTripScaled scale v = some r := by
  unfold roundTripScaled
  rw [h1]
  exact h2

theorem roundTrip_zero (scale : Nat) : roundTripScaled scale 0 = some 0 := by
  have h1 : marshalScaled scale 0 = some (false, (0, 0)) :=
    marshal_of scale 0 (0, 0) (0, 0) rfl (by simp [divInt, roundPos])
  have h2 : unmarshalScaled scale false (0, 0) = some 0 := by
    simp [unmarshalScaled, mulInt, roundPos, roundHalfAway]
  exact roundTrip_of scale 0 false (0, 0) 0 h1 h2

/-- the sign travels beside the magnitude (`marshalScaled`, `unmarshalScaled`): any integer of magnitude below 2^32 -/
theorem roundTrip_int (scale : Nat) (v : Int) (hs : 0 < scale) (hs1 : Nat.log2 scale ≤ 1023) (hv : v.natAbs < 2 ^ 32) :
    roundTripScaled scale v = some v := by
  by_cases h0 : v = 0
  · subst h0; exact roundTrip_zero scale
  · have h0' : v.natAbs ≠ 0 := by omega
    obtain ⟨k1, hx⟩ := float_of_nat v.natAbs h0' hv
    obtain ⟨m2, k2, hy, hk2, A1, A2⟩ := div_step scale v.natAbs k1 hs hs1 h0' hv
    refine roundTrip_of scale v _ (m2, (k2 : Int)) v (marshal_of scale v _ _ hx hy) ?_
    rw [mul_round_step scale v.natAbs m2 k2 hs h0' hv hk2 A1 A2]
    simp only [decide_eq_true_eq]
    split <;> (apply congrArg; omega)

theorem roundTrip_nat (scale f : Nat) (hs : 0 < scale) (hs1 : Nat.log2 scale ≤ 1023) (hf : f < 2 ^ 32) :
    roundTripScaled scale (f : Int) = some (f : Int) :=
  roundTrip_int scale f hs hs1 (by rw [Int.natAbs_natCast]; exact hf)

end LW.Backend
