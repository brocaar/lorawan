/-
  LW.Proofs.JoinAcceptRT — CFList and JoinAcceptPayload. First what the encoders accept and write (shared by the round
  trips, the layout tables and the join-server), then decode ∘ encode = id on the values the encoder accepts
  (five channel frequencies, or canonical channel masks: at most six, no trailing all-zero mask).
-/
import LW.Proofs.FrameRT
namespace LW.FrameRT
open Outcome

/-! The values the round trips are stated for (C01, C04). -/

/-- a list of channel masks without trailing all-zero mask (canonical: those are indistinguishable from the padding) -/
def masksCanonical : List (BitVec 16) → Bool
  | [] => true
  | ms => ms.getLast? != some 0

/-- a CFList the codec reproduces exactly: five channel frequencies under any type other than 1, or canonical channel masks under type 1 -/
def cfListCanonical (l : CFList) : Bool :=
  match l.payload with
  | .channels fs => fs.length == 5 && l.typ != 1
  | .masks ms => masksCanonical ms && l.typ == 1

theorem cfChannelsEnc_eq_ok {fs : List (BitVec 32)} {b : Bytes} :
    cfChannelsEnc fs = ok b ↔
      (∀ f ∈ fs, f.toNat % 100 = 0 ∧ f.toNat / 100 < 16777216) ∧ b = fs.flatMap (fun f => leBytes 3 (f.toNat / 100)) := by
  induction fs generalizing b with
  | nil => simp [cfChannelsEnc, eq_comm]
  | cons f fs ih =>
    simp only [cfChannelsEnc, ite_err_eq_ok, bind_eq_ok, ih, ok.injEq, List.forall_mem_cons, List.flatMap_cons,
      bne_iff_ne, ne_eq, Decidable.not_not, Nat.not_lt, Nat.lt_succ_iff]
    constructor
    · rintro ⟨h1, h2, r, ⟨hfs, rfl⟩, rfl⟩
      exact ⟨⟨⟨h1, by omega⟩, hfs⟩, rfl⟩
    · rintro ⟨⟨⟨h1, h2⟩, hfs⟩, rfl⟩
      exact ⟨h1, by omega, _, ⟨hfs, rfl⟩, rfl⟩

theorem cfChannelsEnc_ok (fs : List (BitVec 32)) (h : fs.all (fun f => (Spec.freqCode f).isSome) = true) : ∃ b, cfChannelsEnc fs = ok b := by
  refine ⟨_, cfChannelsEnc_eq_ok.mpr ⟨fun f hf => ?_, rfl⟩⟩
  obtain ⟨c, hc⟩ := Option.isSome_iff_exists.mp (List.all_eq_true.mp h f hf)
  obtain ⟨h1, h2, -⟩ := MacSpec.freqCode_eq_some.mp hc
  exact ⟨h2, by omega⟩

/-- `CFList.MarshalBinary` copies the payload into fifteen zero bytes -/
theorem pad15 (b : Bytes) (h : b.length ≤ 15) : ((b ++ zeros 16).take 16).take 15 = b ++ zeros (15 - b.length) := by
  rw [List.take_take, take_append_of_length_le (by omega), zeros, List.take_replicate]
  congr 2
  omega

theorem cfList_enc_length {l : CFList} {c : Bytes} (h : l.enc = ok c) : c.length = 16 := by
  simp only [CFList.enc, bind_eq_ok, ok.injEq] at h
  obtain ⟨b, _, rfl⟩ := h
  simp [zeros]

theorem cfList_enc_ok (l : CFList) (h : Spec.cfListOK l = true) : ∃ c, l.enc = ok c := by
  obtain ⟨pl, t⟩ := l
  cases pl with
  | channels fs =>
    simp only [Spec.cfListOK, Bool.and_eq_true] at h
    obtain ⟨b, hb⟩ := cfChannelsEnc_ok fs h.2.2
    simp only [CFList.enc, CFListP.enc, hb, ok_bind]
    exact ⟨_, rfl⟩
  | masks ms =>
    simp only [Spec.cfListOK, Bool.and_eq_true, decide_eq_true_eq] at h
    simp only [CFList.enc, CFListP.enc, cfMasksEnc, if_neg (Nat.not_lt.mpr h.2), ok_bind]
    exact ⟨_, rfl⟩

theorem joinAccept_enc_eq (ja : JoinAccept) (hd : ja.rxDelay.toNat ≤ 15) (hjn : ja.joinNonce.toNat < 16777216)
    (h2 : ja.rx2dr.toNat ≤ 15) (h1 : ja.rx1off.toNat ≤ 7) :
    ja.enc = (match ja.cfList with | none => ok [] | some l => l.enc) >>= fun c =>
      ok (leBytes 3 ja.joinNonce.toNat ++ leBytes 3 ja.homeNetID.toNat ++ leBytes 4 ja.devAddr.toNat ++
          [(ja.rx2dr ||| ja.rx1off <<< 4) ||| (if ja.optNeg then 0x80#8 else 0#8), ja.rxDelay] ++ c) := by
  simp only [JoinAccept.enc, dlSettingsEnc]
  rw [if_neg (by omega), if_neg (by omega), if_neg (by omega), if_neg (by omega), ok_bind]
  cases ja.cfList with
  | none => simp only [ok_bind, List.append_nil]
  | some l => rfl

theorem joinAccept_enc_length {ja : JoinAccept} {b : Bytes} (h : ja.enc = ok b) :
    b.length = match ja.cfList with | none => 12 | some _ => 28 := by
  simp only [JoinAccept.enc, ite_err_eq_ok, bind_eq_ok] at h
  obtain ⟨-, -, d, -, h⟩ := h
  cases hc : ja.cfList with
  | none => rw [hc] at h; cases h; simp
  | some l =>
    simp only [hc, bind_eq_ok, ok.injEq] at h
    obtain ⟨c, hl, rfl⟩ := h
    simp [cfList_enc_length hl]

theorem freq100_rt (f : BitVec 32) (h1 : f.toNat % 100 = 0) (h2 : f.toNat / 100 < 16777216) :
    freq100Dec (leBytes 3 (f.toNat / 100)) = f := by
  rw [freq100Dec, leNat_leBytes_of_lt h2]
  apply BitVec.eq_of_toNat_eq
  rw [BitVec.toNat_ofNat]
  omega

theorem cfChannels_rt (prev fs : List (BitVec 32)) (b : Bytes) (hn : fs.length ≤ 5) (h : cfChannelsEnc fs = ok b) :
    b.length = 3 * fs.length ∧ cfChannelsDec prev b = ok (fs ++ List.replicate (5 - fs.length) 0) := by
  obtain ⟨hfs, rfl⟩ := cfChannelsEnc_eq_ok.mp h
  have hl := flatMap_length_const 3 (fun f : BitVec 32 => leBytes 3 (f.toNat / 100)) (fun _ => leBytes_length _ _) fs
  refine ⟨hl, ?_⟩
  have hchunks := map_range_chunks 3 (fun f : BitVec 32 => leBytes 3 (f.toNat / 100)) freq100Dec (fun _ => leBytes_length _ _) fs []
  rw [List.append_nil] at hchunks
  have hrt : fs.map (fun f => freq100Dec (leBytes 3 (f.toNat / 100))) = fs := by
    rw [List.map_congr_left (g := id) (fun f hf => freq100_rt f (hfs f hf).1 (hfs f hf).2), List.map_id]
  rw [cfChannelsDec, hl, if_neg (by omega), if_neg (by simp)]
  simp only [Nat.mul_div_cancel_left _ (by decide : 0 < 3), hchunks, hrt, List.drop_replicate]

/-- `ms` without its trailing all-zero masks -/
def stripZeros : List (BitVec 16) → List (BitVec 16)
  | [] => []
  | m :: ms => if m = 0 ∧ stripZeros ms = [] then [] else m :: stripZeros ms

/-- the loop keeps `pending` (the zero masks seen since the last non-zero one) only if a non-zero mask follows: it drops the
trailing all-zero masks -/
theorem cfMasksLoop_eq (ms p acc : List (BitVec 16)) :
    cfMasksLoop ms p acc = if stripZeros ms = [] then acc else acc ++ p ++ stripZeros ms := by
  induction ms generalizing p acc with
  | nil => rfl
  | cons m ms ih =>
    rw [cfMasksLoop, ih, ih, stripZeros]
    by_cases hm : m = 0#16 <;> by_cases hs : stripZeros ms = [] <;> simp [hm, hs]

theorem stripZeros_append_zeros (ms : List (BitVec 16)) (k : Nat) : stripZeros (ms ++ List.replicate k 0) = stripZeros ms := by
  induction ms with
  | nil =>
    show stripZeros (List.replicate k 0) = []
    induction k with
    | zero => rfl
    | succ k ih => simp only [List.replicate_succ, stripZeros, ih, and_self, if_true]
  | cons m ms ih => rw [List.cons_append, stripZeros, stripZeros, ih]

theorem pairsLE_masks (ms : List (BitVec 16)) (tail : Bytes) : pairsLE (ms.flatMap chMaskEnc ++ tail) = ms ++ pairsLE tail := by
  induction ms with
  | nil => rfl
  | cons m ms ih =>
    rw [List.flatMap_cons, List.append_assoc, List.cons_append, ← ih]
    exact congrArg (· :: pairsLE (ms.flatMap chMaskEnc ++ tail)) (ofNat_leNat_leBytes_toNat (k := 2) m (by omega))

theorem stripZeros_canonical (ms : List (BitVec 16)) (hc : masksCanonical ms = true) : stripZeros ms = ms := by
  induction ms with
  | nil => rfl
  | cons m ms ih =>
    cases ms with
    | nil => simpa [stripZeros, masksCanonical] using hc
    | cons x xs =>
      have hx : stripZeros (x :: xs) = x :: xs := ih (by simpa [masksCanonical] using hc)
      rw [stripZeros, hx]
      simp

theorem pairsLE_zeros (k : Nat) : pairsLE (zeros k) = List.replicate (k / 2) 0 := by
  induction k using Nat.strongRecOn with
  | _ k ih =>
    match k with
    | 0 => rfl
    | 1 => rfl
    | k+2 =>
      have : zeros (k + 2) = 0 :: 0 :: zeros k := by simp [zeros, List.replicate_succ]
      rw [this, pairsLE, ih k (by omega)]
      have : (k + 2) / 2 = k / 2 + 1 := by omega
      rw [this, List.replicate_succ]
      congr 1

theorem cfMasks_rt (ms : List (BitVec 16)) (b : Bytes) (hc : masksCanonical ms = true) (h : cfMasksEnc ms = ok b) :
    b.length ≤ 12 ∧ cfMasksDec [] (b ++ zeros (15 - b.length)) = ok ms := by
  simp only [cfMasksEnc, ite_err_eq_ok, ok.injEq] at h
  obtain ⟨hl, rfl⟩ := h
  have hlen := flatMap_length_const 2 chMaskEnc (fun _ => leBytes_length _ _) ms
  refine ⟨by omega, ?_⟩
  rw [cfMasksDec, if_neg (by simp [zeros, hlen]; omega), pairsLE_masks, pairsLE_zeros, cfMasksLoop_eq, stripZeros_append_zeros, stripZeros_canonical ms hc]
  cases ms <;> simp

theorem cfList_dec_snoc (body : Bytes) (t : Byte) (h : body.length = 15) :
    CFList.dec (body ++ [t]) =
      if t == 1 then cfMasksDec [] body >>= fun m => ok { payload := .masks m, typ := t }
      else cfChannelsDec (List.replicate 5 0) body >>= fun c => ok { payload := .channels c, typ := t } := by
  have hl : ¬ ((body ++ [t]).length != 16) = true := by simp [h]
  have ht : (body ++ [t]).getD 15 0 = t := by simp [h]
  simp only [CFList.dec, if_neg hl, ht, List.take_left' h]

theorem cfList_rt (l : CFList) (b : Bytes) (hc : cfListCanonical l = true) (h : l.enc = ok b) : b.length = 16 ∧ CFList.dec b = ok l := by
  obtain ⟨pl, t⟩ := l
  simp only [CFList.enc, bind_eq_ok, ok.injEq] at h
  obtain ⟨cb, hb, rfl⟩ := h
  cases pl with
  | channels fs =>
    simp only [cfListCanonical, Bool.and_eq_true, beq_iff_eq, bne_iff_ne, ne_eq] at hc
    obtain ⟨hl, hd⟩ := cfChannels_rt (List.replicate 5 0) fs cb (Nat.le_of_eq hc.1) hb
    rw [hc.1] at hl hd
    rw [pad15 cb (by omega), hl, zeros, List.replicate_zero, List.append_nil, cfList_dec_snoc cb t hl, hd,
      if_neg (by simpa using hc.2)]
    exact ⟨by rw [List.length_append, hl]; rfl, by simp⟩
  | masks ms =>
    simp only [cfListCanonical, Bool.and_eq_true, beq_iff_eq] at hc
    obtain ⟨hl, hd⟩ := cfMasks_rt ms cb hc.1 hb
    have h15 : (cb ++ zeros (15 - cb.length)).length = 15 := by simp [zeros]; omega
    rw [pad15 cb (by omega), cfList_dec_snoc _ t h15, hd, hc.2]
    exact ⟨by rw [List.length_append, h15]; rfl, rfl⟩

theorem joinAccept_rt (ja : JoinAccept) (b : Bytes) (hcf : ∀ l, ja.cfList = some l → cfListCanonical l = true) (h : ja.enc = ok b) :
    JoinAccept.dec {} b = ok ja := by
  obtain ⟨jn, nid, addr, o, r2, r1, rxd, cf⟩ := ja
  simp only [JoinAccept.enc, dlSettingsEnc, ite_err_eq_ok, bind_eq_ok, ok.injEq] at h
  obtain ⟨hrx, hjn, d, ⟨h2, h1, rfl⟩, h⟩ := h
  have hd := MacSpec.dlSettingsDec_enc r2 r1 o (by omega) (by omega)
  have e1 := ofNat_leNat_leBytes_toNat (k := 3) jn (by omega)
  have e2 := ofNat_leNat_leBytes_toNat (k := 3) nid (by omega)
  have e3 := ofNat_leNat_leBytes_toNat (k := 4) addr (by omega)
  cases cf with
  | none =>
    cases ok.inj h
    simp [JoinAccept.dec, e1, e2, e3, hd]
  | some l =>
    simp only [bind_eq_ok, ok.injEq] at h
    obtain ⟨c, hc, rfl⟩ := h
    obtain ⟨hcl, hcd⟩ := cfList_rt l c (hcf l rfl) hc
    simp [JoinAccept.dec, hcl, hcd, e1, e2, e3, hd]

end LW.FrameRT
